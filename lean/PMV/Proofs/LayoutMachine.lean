import PMV.Proofs.LayoutSpec
namespace PMV.Spec.Layout
open PMV PMV.Token PMV.Printer

theorem l0step_tok (s : L0) (x : Tok) (h : Spec.Lex.isLayout x = false) : l0step s x = ⟨.t x :: s.acc, s.indent⟩ := by
  cases x with
  | newline | indentInc | indentDec | endStmt => cases h
  | _ => rfl

theorem eff_nlay (xs : List Tok) (h : nlay xs = true) (s : L0) : eff xs s = ⟨(T xs).reverse ++ s.acc, s.indent⟩ := by
  induction xs generalizing s with
  | nil => rfl
  | cons x xs ih =>
    simp only [nlay_cons, Bool.and_eq_true, Bool.not_eq_true'] at h
    rw [eff_cons, l0step_tok s x h.1, ih h.2]
    simp [T_cons]

theorem strip_pending {l : List LT} (h : EndsT l) (rest : List LT) :
    (l.reverse ++ rest).dropWhile LT.isLay = l.reverse ++ rest := by
  obtain ⟨pre, tok, rfl⟩ := h
  simp [LT.isLay]

/-- what a statement leaves pending behind it: a line break after a compound statement or at module level, a `;` otherwise -/
def pendS (d : Nat) (cmp : Bool) : LT := if cmp then .nl d else if d == 0 then .nl 0 else .semi

theorem pendS_isLay (d : Nat) (cmp : Bool) : (pendS d cmp).isLay = true := by
  unfold pendS
  split
  · rfl
  · split <;> rfl

/-- what a statement finds in front of it: a compound statement replaces the pending layout token by a line break -/
def commit (acc : List LT) (cmp : Bool) (d : Nat) : List LT :=
  if acc.isEmpty then [] else if cmp then .nl d :: acc.dropWhile LT.isLay else acc

theorem l0step_newline (acc : List LT) (d : Nat) : l0step ⟨acc, d⟩ .newline = ⟨commit acc true d, d⟩ := by
  show l0newline _ = _
  unfold l0newline commit
  cases acc <;> simp

theorem commit_false (acc : List LT) (d : Nat) : commit acc false d = acc := by
  cases acc <;> rfl

theorem commit_nl {l : List LT} (h : EndsT l) (rest : List LT) (cmp : Bool) (d : Nat) :
    commit (.nl d :: (l.reverse ++ rest)) cmp d = .nl d :: (l.reverse ++ rest) := by
  cases cmp <;> simp [commit, List.dropWhile_cons, LT.isLay, strip_pending h rest]

/-- between two statements of a block: the right side is `sep` -/
theorem commit_pendS {l : List LT} (h : EndsT l) (rest : List LT) (d : Nat) (ca cb : Bool) :
    commit (pendS d ca :: (l.reverse ++ rest)) cb d = (if ca || cb || d == 0 then .nl d else .semi) :: (l.reverse ++ rest) := by
  cases cb with
  | false =>
    -- nothing is committed, and the right side is `pendS d ca` (whose `.nl 0` stands for `.nl d` at `d = 0`)
    rw [commit_false]
    by_cases hd : d = 0 <;> cases ca <;> simp [pendS, hd]
  | true =>
    -- the pending token is a layout token and what is below it ends with a real one: only it is replaced
    simp [commit, pendS_isLay, strip_pending h rest]

theorem newline_after {l : List LT} (h : EndsT l) (p : LT) (hp : p.isLay = true) (rest : List LT) (d : Nat) :
    l0step ⟨p :: (l.reverse ++ rest), d⟩ .newline = ⟨.nl d :: (l.reverse ++ rest), d⟩ := by
  show l0newline _ = _
  simp [l0newline, hp, strip_pending h rest]

theorem newline_on {l : List LT} (h : EndsT l) (rest : List LT) (d : Nat) :
    l0step ⟨l.reverse ++ rest, d⟩ .newline = ⟨.nl d :: (l.reverse ++ rest), d⟩ := by
  obtain ⟨pre, tok, rfl⟩ := h
  simp [l0step, l0newline, LT.isLay]

theorem endStmt_on {l : List LT} (h : EndsT l) (rest : List LT) (d : Nat) :
    l0step ⟨l.reverse ++ rest, d⟩ .endStmt = ⟨pendS d false :: (l.reverse ++ rest), d⟩ := by
  by_cases hd : d = 0
  · subst hd; simpa [l0step, pendS] using newline_on h rest 0
  · obtain ⟨pre, tok, rfl⟩ := h
    simp [l0step, pendS, hd]

def firstCmp : List Stmt → Bool
  | [] => false
  | s :: _ => isCompoundSyn s

def lastCmp : List Stmt → Bool
  | [] => false
  | [s] => isCompoundSyn s
  | _ :: rest => lastCmp rest

/-- The invariant of the induction, for a block.  From any state `s` its tokens first `commit` what was pending in front of
    it (to a line break if the first statement is compound), then append the layout of the block, and leave `pendS` pending;
    the layout ends with a real token, so the pending token is all that a later `newline` strips. -/
def ClaimL (t : PrecTable) (st : StmtTable) (body : List Stmt) : Prop :=
  (body ≠ [] → ∀ d, EndsT (emitBody t st d body)) ∧
  ∀ s : L0, body ≠ [] → eff (bodyToks t st body) s =
    ⟨pendS s.indent (lastCmp body) :: ((emitBody t st s.indent body).reverse ++ commit s.acc (firstCmp body) s.indent), s.indent⟩

/-- a clause, from its header to the end of its suite, leaves a line break at its own depth pending -/
def ClaimSuite (t : PrecTable) (st : StmtTable) (body : List Stmt) : Prop :=
  ∀ (B : List LT) (d : Nat) (hdr : List Tok), nlay hdr = true → hdr ≠ [] →
    eff (hdr ++ suiteWrap (body.any (isCompound st)) (bodyToks t st body)) ⟨B, d⟩ =
      ⟨.nl d :: ((clause t st d hdr body).reverse ++ B), d⟩ ∧
    EndsT (clause t st d hdr body)

/-- `ClaimL` for one statement; with `el` for `visit_If(el=True)`, whose tokens are `elifOf` of the plain ones -/
def ClaimS (t : PrecTable) (st : StmtTable) (s0 : Stmt) : Prop :=
  ∀ (el : Bool), (el = true → isIfStmt s0 = true) →
    (∀ d, EndsT (emitS t st el d s0)) ∧
    ∀ s : L0, eff (if el then elifOf (stmtToks t st s0) else stmtToks t st s0) s =
      ⟨pendS s.indent (isCompoundSyn s0) :: ((emitS t st el s.indent s0).reverse ++ commit s.acc (isCompoundSyn s0) s.indent), s.indent⟩

/-- what the induction gives of a list of statements: as a block, as the suite of a clause, and — for an `else` branch that is a
    sole `if`, printed as `elif` — `ClaimS` of each statement, with `el = true` -/
structure ClaimLS (t : PrecTable) (st : StmtTable) (body : List Stmt) : Prop where
  block : ClaimL t st body
  suite : ClaimSuite t st body
  each : ∀ s ∈ body, ClaimS t st s

/-- further clauses of a compound statement (`else`, handlers, `finally`, an `elif` chain): they start on the pending line
    break of what was laid out before them (`X`), append `g d`, and leave a line break pending again.  `ClaimH` is this for
    `handlersToks`. -/
def Follows (ts : List Tok) (g : Nat → List LT) : Prop :=
  ∀ (X C : List LT) (d : Nat), EndsT X →
    eff ts ⟨.nl d :: (X.reverse ++ C), d⟩ = ⟨.nl d :: ((X ++ g d).reverse ++ C), d⟩ ∧ EndsT (X ++ g d)

def ClaimH (t : PrecTable) (st : StmtTable) (star : Bool) (hs : List Handler) : Prop :=
  ∀ (X C : List LT) (d : Nat), EndsT X →
    eff (handlersToks t st star hs) ⟨.nl d :: (X.reverse ++ C), d⟩ = ⟨.nl d :: ((X ++ emitHandlers t st star d hs).reverse ++ C), d⟩ ∧
    EndsT (X ++ emitHandlers t st star d hs)

def ClaimC (t : PrecTable) (st : StmtTable) (cs : List MatchCase) : Prop :=
  cs ≠ [] → ∀ (B : List LT) (e : Nat),
    eff (casesToks t st cs) ⟨B, e⟩ = ⟨.nl e :: ((emitCases t st e cs).reverse ++ B), e⟩ ∧ EndsT (emitCases t st e cs)

theorem any_false_first {body : List Stmt} (h : body.any isCompoundSyn = false) : firstCmp body = false := by
  cases body with
  | nil => rfl
  | cons s ss => simp at h; exact h.1

theorem any_false_last {body : List Stmt} (h : body.any isCompoundSyn = false) : lastCmp body = false := by
  induction body with
  | nil => rfl
  | cons s ss ih =>
    simp only [List.any_cons, Bool.or_eq_false_iff] at h
    cases ss with
    | nil => exact h.1
    | cons s' ss' => exact ih h.2

theorem lastCmp_cons (a b : Stmt) (r : List Stmt) : lastCmp (a :: b :: r) = lastCmp (b :: r) := rfl

/-- what the `[.indentDec, .newline]` at the end of `suiteWrap` does -/
def leaveSuite (s : L0) : L0 := l0step ⟨s.acc, s.indent - 1⟩ .newline

theorem eff_suiteWrap (b : Bool) (ts : List Tok) (acc : List LT) (d : Nat) :
    eff (suiteWrap b ts) ⟨acc, d⟩ = leaveSuite (eff ts (if b then l0step ⟨acc, d + 1⟩ .newline else ⟨acc, d + 1⟩)) := by
  cases b <;> simp [leaveSuite, suiteWrap, eff_cons, eff_append, eff_nil, l0step]

/-- the tokens of an optional `else` / `finally` clause.  `nlb`: the printer calls `newline` before it (it does before the
    `else` of a `for`, not of a `while` or `try`) -/
def optToks (t : PrecTable) (st : StmtTable) (kwd : String) (nlb : Bool) (body : List Stmt) : List Tok :=
  if body.isEmpty then []
  else (if nlb then [.newline] else []) ++ ([.kw kwd, .delim ":"] ++ suiteWrap (body.any (isCompound st)) (bodyToks t st body))

section
variable (t : PrecTable) (st : StmtTable)

theorem suite_of_body (hst : ∀ s, isCompound st s = isCompoundSyn s) (body : List Stmt)
    (hL : ClaimL t st body) : ClaimSuite t st body := by
  intro B d hdr hn hne
  have hE0 : EndsT (T hdr) := EndsT_T hne
  refine ⟨?_, EndsT_clause hne fun hb => hL.1 hb (d + 1)⟩
  rw [eff_append, eff_nlay hdr hn, show isCompound st = isCompoundSyn from funext hst, eff_suiteWrap]
  by_cases hb : body = []
  · subst hb
    simp only [List.any_nil, Bool.false_eq_true, if_false, bodyToks, eff_nil, leaveSuite, Nat.add_sub_cancel, clause_nil]
    exact newline_on hE0 B d
  · by_cases hblk : body.any isCompoundSyn = true
    · rw [clause_block hblk]
      simp only [hblk, if_true]
      rw [newline_on hE0 B (d + 1), hL.2 _ hb, commit_nl hE0]
      simp only [leaveSuite, Nat.add_sub_cancel]
      rw [newline_after (hL.1 hb (d + 1)) _ (pendS_isLay _ _)]
      simp
    · have hblk' : body.any isCompoundSyn = false := by simpa using hblk
      rw [clause_inline hblk']
      simp only [hblk', Bool.false_eq_true, if_false]
      rw [hL.2 _ hb, any_false_first hblk', commit_false]
      simp only [leaveSuite, Nat.add_sub_cancel]
      rw [newline_after (hL.1 hb (d + 1)) _ (pendS_isLay _ _)]
      simp

theorem claimL_cons (a : Stmt) (rest : List Stmt)
    (hS : ClaimS t st a) (hL : ClaimL t st rest) : ClaimL t st (a :: rest) := by
  obtain ⟨hEa, hSa⟩ := hS false (fun h => by cases h)
  have hE : ∀ d, EndsT (emitBody t st d (a :: rest)) := by
    intro d
    rw [emitBody_cons]
    cases rest with
    | nil => simpa using hEa d
    | cons b r => simp only [List.isEmpty_cons, Bool.false_eq_true, if_false]; exact EndsT.append_left _ (EndsT.cons _ (hL.1 (by simp) d))
  refine ⟨fun _ => hE, fun s _ => ?_⟩
  rw [bodyToks_cons, eff_append]
  rw [show eff (stmtToks t st a) s = _ from hSa s]
  cases rest with
  | nil =>
    simp only [bodyToks, eff_nil, emitBody_cons, List.isEmpty_nil, if_true, List.append_nil, lastCmp, firstCmp]
  | cons b r =>
    rw [hL.2 _ (by simp)]
    simp only [emitBody_cons t st _ a (b :: r), List.isEmpty_cons, Bool.false_eq_true, if_false, lastCmp_cons, firstCmp, sepNext]
    congr 1
    simp only [List.reverse_append, List.reverse_cons, List.append_assoc, List.cons_append, List.nil_append]
    congr 1
    rw [commit_pendS (hEa s.indent)]; rfl

theorem ClaimLS.of (hst : ∀ s, isCompound st s = isCompoundSyn s) {body : List Stmt} (hL : ClaimL t st body)
    (hS : ∀ s ∈ body, ClaimS t st s) : ClaimLS t st body :=
  ⟨hL, suite_of_body t st hst body hL, hS⟩

theorem claimL_nil : ClaimL t st [] := ⟨fun h => absurd rfl h, fun _ h => absurd rfl h⟩

theorem Follows.nil : Follows [] fun _ => [] := fun X _ _ hX => by rw [List.append_nil]; exact ⟨rfl, hX⟩

theorem Follows.append {a b : List Tok} {f g : Nat → List LT} (ha : Follows a f) (hb : Follows b g) :
    Follows (a ++ b) fun d => f d ++ g d := by
  intro X C d hX
  obtain ⟨e1, e2⟩ := ha X C d hX
  obtain ⟨e3, e4⟩ := hb _ C d e2
  rw [eff_append, e1, e3, ← List.append_assoc]
  exact ⟨rfl, e4⟩

/-- the printer's `newline` in front of further clauses changes nothing: the line break is already pending -/
theorem Follows.newline {ts : List Tok} {f : Nat → List LT} (h : Follows ts f) : Follows (.newline :: ts) f := by
  intro X C d hX
  rw [eff_cons, newline_after hX (.nl d) rfl C d]
  exact h X C d hX

theorem clause_step (body : List Stmt) (hB : ClaimSuite t st body) (hdr : List Tok) (hn : nlay hdr = true)
    (hne : hdr ≠ []) : Follows (hdr ++ suiteWrap (body.any (isCompound st)) (bodyToks t st body))
      fun d => .nl d :: clause t st d hdr body := by
  intro X C d _
  obtain ⟨h1, h2⟩ := hB (.nl d :: (X.reverse ++ C)) d hdr hn hne
  exact ⟨by rw [h1]; simp, EndsT.append_left _ (EndsT.cons _ h2)⟩

theorem stmtToks_simple (s : Stmt) (h : isCompoundSyn s = false) :
    stmtToks t st s = simpleToks t st s ++ [.endStmt] := by
  -- every arm of `stmtToks` for a simple statement is written `xs ++ [.endStmt]`
  have key {xs : List Tok} (e : stmtToks t st s = xs ++ [.endStmt]) : stmtToks t st s = simpleToks t st s ++ [.endStmt] := by
    rw [simpleToks_of_eq e, e]
  cases s with
  | functionDef | classDef | for_ | while_ | if_ | with_ | match_ | try_ => cases h
  | pass | break_ | continue_ => exact key (xs := [_]) rfl
  | _ => exact key rfl

theorem stmtToks_functionDef (a : Bool) (n : String) (args : Arguments) (body : List Stmt) (decs : List Expr) (r : Option Expr)
    (tps : List TypeParam) : stmtToks t st (.functionDef a n args body decs r tps) =
      .newline :: (decoratorToks t decs ++ (hdrDef t a n args r tps ++ suiteWrap (body.any (isCompound st)) (bodyToks t st body))) := by
  cases r <;> simp [stmtToks, hdrDef, List.append_assoc]

theorem stmtToks_classDef (n : String) (bases : List Expr) (kws : List Keyword) (body : List Stmt) (decs : List Expr)
    (tps : List TypeParam) : stmtToks t st (.classDef n bases kws body decs tps) =
      .newline :: (decoratorToks t decs ++ (hdrClass t n bases kws tps ++ suiteWrap (body.any (isCompound st)) (bodyToks t st body))) := by
  simp [stmtToks, hdrClass, List.append_assoc]

theorem stmtToks_with (a : Bool) (items : List WithItem) (body : List Stmt) : stmtToks t st (.with_ a items body) =
    .newline :: (hdrWith t a items ++ suiteWrap (body.any (isCompound st)) (bodyToks t st body)) := by
  simp [stmtToks, hdrWith, List.append_assoc]

theorem stmtToks_for (a : Bool) (tg it : Expr) (body orelse : List Stmt) : stmtToks t st (.for_ a tg it body orelse) =
    .newline :: ((hdrFor t a tg it ++ suiteWrap (body.any (isCompound st)) (bodyToks t st body)) ++ optToks t st "else" true orelse) := by
  simp [stmtToks, hdrFor, optToks, List.append_assoc]

theorem stmtToks_while (c : Expr) (body orelse : List Stmt) : stmtToks t st (.while_ c body orelse) =
    .newline :: (((.kw "while" :: tExpr t c ++ [.delim ":"]) ++ suiteWrap (body.any (isCompound st)) (bodyToks t st body)) ++
      optToks t st "else" false orelse) := by
  simp [stmtToks, optToks, List.append_assoc]

/-- both printings of an `if`: `visit_If(el=True)` differs in the keyword only -/
theorem stmtToks_if (c : Expr) (body orelse : List Stmt) (el : Bool) :
    (if el then elifOf (stmtToks t st (.if_ c body orelse)) else stmtToks t st (.if_ c body orelse)) =
      .newline :: (((.kw (if el then "elif" else "if") :: tExpr t c ++ [.delim ":"]) ++
        suiteWrap (body.any (isCompound st)) (bodyToks t st body)) ++ elseToks t st orelse) := by
  cases el <;> simp [stmtToks, elifOf, List.append_assoc]

theorem stmtToks_try (star : Bool) (body : List Stmt) (hs : List Handler) (orelse fin : List Stmt) :
    stmtToks t st (.try_ star body hs orelse fin) =
      .newline :: (([.kw "try", .delim ":"] ++ suiteWrap (body.any (isCompound st)) (bodyToks t st body)) ++
        ((handlersToks t st star hs ++ optToks t st "else" false orelse) ++ optToks t st "finally" false fin)) := by
  simp [stmtToks, optToks, List.append_assoc]

theorem stmtToks_match (hmc : st.compound.contains "match_case" = true) (subj : Expr) (cases : List MatchCase) :
    stmtToks t st (.match_ subj cases) =
      .newline :: ((.kw "match" :: tExpr t subj ++ [.delim ":"]) ++ suiteWrap true (casesToks t st cases)) := by
  rw [stmtToks, hmc]; simp [List.append_assoc]

theorem handlersToks_cons (star : Bool) (ty : Option Expr) (name : Option String) (body : List Stmt) (hs : List Handler) :
    handlersToks t st star (.mk ty name body :: hs) =
      (hdrExcept t star ty name ++ suiteWrap (body.any (isCompound st)) (bodyToks t st body)) ++ handlersToks t st star hs := by
  cases name <;> simp [handlersToks, hdrExcept, List.append_assoc]

theorem casesToks_cons (pat : Pattern) (guard : Option Expr) (body : List Stmt) (cs : List MatchCase) :
    casesToks t st (.mk pat guard body :: cs) =
      (hdrCase t pat guard ++ suiteWrap (body.any (isCompound st)) (bodyToks t st body)) ++ casesToks t st cs := by
  cases guard <;> simp [casesToks, hdrCase, List.append_assoc]

theorem isIf_compound (s : Stmt) (h : isIfStmt s = true) : isCompoundSyn s = true := by
  cases s <;> simp [isIfStmt] at h <;> rfl

theorem deco_eff (decs : List Expr) (h : decs.all (fun dec => nlay (tExpr t dec)) = true) (B : List LT) (d : Nat) :
    eff (decoratorToks t decs) ⟨B, d⟩ = ⟨(decoLines t d decs).reverse ++ B, d⟩ := by
  induction decs generalizing B with
  | nil => rfl
  | cons dec rest ih =>
    simp only [List.all_cons, Bool.and_eq_true] at h
    have hn : nlay (.op "@" :: tExpr t dec) = true := by simpa [Spec.Lex.isLayout] using h.1
    have hE : EndsT (T (.op "@" :: tExpr t dec)) := EndsT_T (by simp)
    have h1 : decoratorToks t (dec :: rest) = (.op "@" :: tExpr t dec) ++ (.newline :: decoratorToks t rest) := by
      simp [decoratorToks]
    rw [h1, eff_append, eff_nlay _ hn, eff_cons, newline_on hE B d, ih h.2]
    simp [decoLines]

theorem opt_clause (kwd : String) (nlb : Bool) (body : List Stmt) (hB : ClaimSuite t st body) :
    Follows (optToks t st kwd nlb body) fun d => optClause t st kwd d body := by
  unfold optToks optClause
  by_cases hb : body.isEmpty = true
  · simp only [hb, if_true]; exact Follows.nil
  · simp only [hb, Bool.false_eq_true, if_false]
    have h := clause_step t st body hB [.kw kwd, .delim ":"] rfl (by simp)
    cases nlb with
    | true => simpa using h.newline
    | false => simpa using h

theorem claimC_cons (pat : Pattern) (guard : Option Expr) (body : List Stmt) (cs : List MatchCase)
    (hn : nlay (hdrCase t pat guard) = true) (hB : ClaimSuite t st body) (hC : ClaimC t st cs) :
    ClaimC t st (.mk pat guard body :: cs) := by
  intro _ B e
  obtain ⟨e1, e2⟩ := hB B e _ hn (ne_nil_of_getLast? (hdrCase_colon t pat guard))
  rw [casesToks_cons, emitCases_cons, eff_append, e1]
  cases cs with
  | nil =>
    simp only [casesToks, eff_nil, List.isEmpty_nil, if_true, List.append_nil]
    exact ⟨trivial, e2⟩
  | cons c cs' =>
    obtain ⟨e3, e4⟩ := hC (by simp) (.nl e :: ((clause t st e (hdrCase t pat guard) body).reverse ++ B)) e
    rw [e3]
    simp only [List.isEmpty_cons, Bool.false_eq_true, if_false]
    exact ⟨by simp, EndsT.append_left _ (EndsT.cons _ e4)⟩

theorem else_part (orelse : List Stmt) (hLS : ClaimLS t st orelse) : Follows (elseToks t st orelse) fun d => elsePart t st d orelse := by
  cases orelse with
  | nil => simp only [elseToks, elsePart, List.isEmpty_nil, if_true]; exact Follows.nil
  | cons s ss =>
    unfold elsePart
    simp only [List.isEmpty_cons, Bool.false_eq_true, if_false, isElifList_cons]
    rw [elseToks]
    by_cases hel : (isIfStmt s && ss.isEmpty) = true
    · simp only [hel, if_true]
      intro X C d hX
      have hif : isIfStmt s = true := by simp only [Bool.and_eq_true] at hel; exact hel.1
      obtain ⟨hE, hS⟩ := hLS.each s List.mem_cons_self true (fun _ => hif)
      -- the `elif` keeps the pending line break (`commit_nl`); the `newline` after it replaces what the `if` left pending
      rw [eff_append, show eff (elifOf (stmtToks t st s)) _ = _ from hS ⟨.nl d :: (X.reverse ++ C), d⟩, isIf_compound s hif,
        commit_nl hX, eff_cons, eff_nil, newline_after (hE d) _ (pendS_isLay _ _)]
      exact ⟨by simp [emitElif], by simpa [emitElif] using EndsT.append_left X (EndsT.cons (.nl d) (hE d))⟩
    · simp only [hel, Bool.false_eq_true, if_false]
      simpa [List.append_assoc, bodyToks_cons] using
        clause_step t st (s :: ss) hLS.suite [.kw "else", .delim ":"] rfl (by simp)

end

end PMV.Spec.Layout
