import PMV.Proofs.ResolveRename
/-
  Why the `cover` hypothesis of T03.4 / T03.6 holds for what `renamer.reservation_scope` computes: it adds every namespace on the
  parent chain from a reference up to the binding's home, and Python's lookup path is a strictly descending part of that chain.
-/
namespace PMV.Resolve
open PMV.Rename

theorem takeWhile_gt_of_find {p : Nat → Bool} {l : List Nat} {home : Nat} (hp : l.Pairwise (· > ·)) (hf : l.find? p = some home) :
    ∀ a ∈ l.takeWhile (fun a => !p a), a > home := by
  obtain ⟨_, rest, e⟩ := find?_split hf
  rw [e] at hp
  exact fun a ha => (List.pairwise_append.mp hp).2.2 a ha home List.mem_cons_self

section
variable (t : Tree) (h : WFTree t)
include h

theorem anc_root : ∀ n, Anc t 0 n := by
  intro n
  induction n using Nat.strongRecOn with
  | _ n ih =>
    by_cases hz : n = 0
    · subst hz; exact .refl 0
    · exact .step hz (ih _ (h.parentBefore n hz))

theorem kind_ne_zero (n : Nat) (hk : (info t n).kind ≠ .module) : n ≠ 0 := by
  intro hz; subst hz; exact hk h.root.1

/-- where a lookup path continues (`lookupPath_succ`) is the parent of `n` or encloses it -/
theorem next_anc {n m : Nat} (hm : m = 0 ∨ m = nonlocalNs t t.length n) : Anc t m (info t n).parent := by
  rcases hm with rfl | rfl
  · exact anc_root t h _
  · exact nonlocalNs_anc_parent t h _ n

theorem lookupPath_anc (x : String) (fuel n : Nat) : ∀ a ∈ lookupPath t x fuel n, Anc t a n :=
  lookupPath_forall t x (P := (Anc t · n))
    (fun k _ hk hmod hm => (Anc.step (kind_ne_zero t h k hmod) (next_anc t h hm)).trans hk) fuel n (.refl n)

/-- the lookup path descends strictly (namespaces are numbered parents first) -/
theorem lookupPath_desc (x : String) : ∀ (fuel n : Nat), (lookupPath t x fuel n).Pairwise (· > ·)
  | 0, _ => List.Pairwise.nil
  | f + 1, n => by
    rcases lookupPath_succ t x f n with ⟨_, e⟩ | ⟨hk, m, hm, e | e⟩ <;> rw [e]
    · exact List.pairwise_singleton _ _
    · exact lookupPath_desc x f m
    · -- what follows lies on the parent chain of `m`, which is on that of the parent of `n`
      have hmn : m < n := Nat.lt_of_le_of_lt (Anc.le h (next_anc t h hm)) (h.parentBefore n (kind_ne_zero t h n hk))
      exact List.pairwise_cons.mpr
        ⟨fun a ha => Nat.lt_of_le_of_lt (Anc.le h (lookupPath_anc t h x f m a ha)) hmn, lookupPath_desc x f m⟩

theorem skipped_on_chain (x : String) (fuel n home : Nat)
    (horig : getBinding t x fuel n = some home) :
    ∀ a ∈ (lookupPath t x fuel n).takeWhile (fun a => !(info t a).bindings.contains x), Anc t a n ∧ home < a := by
  intro a ha
  rw [getBinding_spec] at horig
  exact ⟨lookupPath_anc t h x fuel n a ((List.takeWhile_sublist _).subset ha),
    takeWhile_gt_of_find (lookupPath_desc t h x fuel n) horig a ha⟩

/-- T03.7 -/
theorem cover_of_parent_chain (rs : List Result) (x : String)
    (hb : ∀ a, (info t a).bindings.contains x = bindsOrig rs a x) (scope : List Ns) (fuel n home : Nat)
    (horig : getBinding t x fuel n = some home)
    (chain : ∀ a, Anc t a n → home < a → a ∈ scope) :
    ∀ a ∈ (lookupPath t x fuel n).takeWhile (fun a => !bindsOrig rs a x), a ∈ scope := by
  intro a ha
  simp only [← hb] at ha
  obtain ⟨h1, h2⟩ := skipped_on_chain t h x fuel n home horig a ha
  exact chain a h1 h2

end

/-- T03.6 with `cover` discharged by T03.7 -/
theorem lookup_after_renaming_of_chains (t t' : Tree) (hw : WFTree t) (rs : List Result) (r : Result) (x y : String) (fuel n : Nat)
    (h : RenamedFor t t' rs x y)
    (hr : r ∈ rs) (hname : r.b.name = some x) (hfin : r.final = some y)
    (horig : getBinding t x fuel n = some r.b.home)
    (chain : ∀ a, Anc t a n → r.b.home < a → a ∈ r.b.scope)
    (clash : ∀ r' ∈ rs, r'.b.home ≠ r.b.home → (r.renamed = true ∨ r'.renamed = true) → (∃ ns, ns ∈ r.b.scope ∧ ns ∈ r'.b.scope) → r'.final ≠ r.final)
    (kept : ∀ r' ∈ rs, r'.renamed = false → r'.final = r'.b.name)
    (homeIn : ∀ r' ∈ rs, r'.b.home ∈ r'.b.scope) :
    getBinding t' y fuel n = getBinding t x fuel n :=
  lookup_after_renaming t t' rs r x y fuel n h hr hname hfin horig
    (cover_of_parent_chain t hw rs x h.bindsBefore r.b.scope fuel n r.b.home horig chain) clash kept homeIn

/-! the concrete instance again, now through the chain hypothesis -/

theorem exWF : WFTree exT where
  root := by decide +kernel
  parentBefore := by
    intro n hn
    rcases n with _ | _ | n
    · exact absurd rfl hn
    · decide +kernel
    · rw [info_ge exT (n + 2) (by simp [exT])]
      exact Nat.succ_pos _

theorem exChain : ∀ a, Anc exT a 1 → exGv.home < a → a ∈ exGv.scope := fun a ha hlt => by
  obtain rfl : a = 1 := Nat.le_antisymm (Anc.le exWF ha) hlt
  decide +kernel

theorem exAppliesChains : getBinding exT' "A" 4 1 = getBinding exT "value" 4 1 :=
  lookup_after_renaming_of_chains exT exT' exWF exRs ⟨exGv, some "A", true, false⟩ "value" "A" 4 1 exRenamed
    List.mem_cons_self rfl rfl (by decide +kernel) exChain (by decide +kernel) (by decide +kernel) (by decide +kernel)

end PMV.Resolve
