import PMV.Proofs.Rename
/-
  C11: the assigner uses its sets only through membership, so the interpreter's set iteration order cannot influence the
  result.  Here: the assigned names and the preserved names; the reservation scopes are `C11.scope_order_irrelevant`.
-/
namespace PMV.Rename

/-- two states of `assigned_names` that hold the same names in every namespace -/
def AssignedEquiv (a a' : Assigned) : Prop := ∀ ns x, x ∈ a ns ↔ x ∈ a' ns

theorem after_equiv {a a' : Assigned} (h : AssignedEquiv a a') (r : Result) : AssignedEquiv (after a r) (after a' r) :=
  fun ns x => by simp only [mem_after, h ns x]

theorem decide1_congr {a a' : Assigned} (h : AssignedEquiv a a') (names : List String) (pg : Bool) (b : Binding) :
    decide1 names pg a b = decide1 names pg a' b := by
  have hav : avail a = avail a' := funext fun n => funext fun sc => by
    rw [Bool.eq_iff_iff, avail_iff, avail_iff]; simp only [h _ n]
  unfold decide1 availableName mustRename; rw [hav]

/-- T11.1: the whole loop gives the same results from set-equal starting states. -/
theorem loop_congr (names : List String) (pg : Bool) : ∀ (bs : List Binding) (a a' : Assigned), AssignedEquiv a a' →
    loop names pg a bs = loop names pg a' bs
  | [], _, _, _ => rfl
  | b :: bs, a, a', h => by
    show _ :: _ = _ :: _
    rw [decide1_congr h, loop_congr names pg bs _ _ (after_equiv h _)]

theorem foldl_globals_equiv (moduleNs : Ns) : ∀ (l : List String) (a a' : Assigned), AssignedEquiv a a' →
    AssignedEquiv (l.foldl (fun a n => reserve n [moduleNs] a) a) (l.foldl (fun a n => reserve n [moduleNs] a) a') :=
  fun l _ _ h ns x => by simp only [mem_foldl_globals, h ns x]

/-- T11.1 (whole assigner): the preserved globals (a set in the implementation) matter only as a set. -/
theorem assign_preserved_order_irrelevant (names : List String) (pg : Bool) (moduleNs : Ns) (rg rg' : List String)
    (h : ∀ x, x ∈ rg ↔ x ∈ rg') (bindings : List Binding) :
    assign names pg moduleNs rg bindings = assign names pg moduleNs rg' bindings :=
  loop_congr names pg _ _ _ fun ns x => by simp only [mem_initial, h x]

end PMV.Rename
