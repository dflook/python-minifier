import PMV.Proofs.PyCoreSim
import PMV.Proofs.PyCoreBind
import PMV.Model.Scope
import PMV.Proofs.TransformsMap
/-
  A suite transformer whose pieces are semantically neutral (`Sound`) preserves the behaviour of every statement, at every
  depth, through loops and calls; if it also keeps the function table (`TableSound`) and the local names (`Stable`), that of
  every module.  `NoOpPred`: statements that do nothing and may be dropped (`pass`; under `-O` asserts and `if __debug__:`).
-/
namespace PMV.PyCore
open PMV PMV.Transforms

variable {o : Bool}

def mapT (t : SuiteT) : FTab → FTab
  | [] => []
  | (n, ps, b) :: rest => (n, ps, bodyT t b) :: mapT t rest

structure Sound (o : Bool) (t : SuiteT) : Prop where
  suite : ∀ ft fuel s m b, execL ⟨ft, o⟩ fuel s (t.suiteF m b) = execL ⟨ft, o⟩ fuel s b
  stmt : ∀ ft fuel s st, exec1 ⟨ft, o⟩ fuel s (t.stmtF st) = exec1 ⟨ft, o⟩ fuel s st
  body : ∀ ft fuel s b, asCall (execL ⟨ft, o⟩ fuel s (t.funcBodyF b)) = asCall (execL ⟨ft, o⟩ fuel s b)
  globals : ∀ b, declaredGlobals (bodyT t b) = declaredGlobals b

theorem lookup_mapT (t : SuiteT) (f : String) (ft : FTab) :
    (mapT t ft).lookup f = (ft.lookup f).map (fun pb => (pb.1, bodyT t pb.2)) :=
  lookup_mapBodies (B := fun _ => bodyT t) rfl (fun _ _ _ _ => rfl) f ft

def Stable (t : SuiteT) (ft : FTab) : Prop :=
  ∀ f ps b, ft.lookup f = some (ps, b) → (bindTop (bodyT t b)).map canonNames = (bindTop b).map canonNames

section
variable {t : SuiteT} {ft ft' : FTab} {N : Nat}

theorem SimL.suite (h : Sound o t) {l l' : List Stmt} (hl : SimL (.eq o ft ft') Same N l l') :
    SimL (.eq o ft ft') Same N l (t.suiteF false l') := fun n hn s s' q => by
  show (Runs.eq o ft ft').Rel Same _ (execL ⟨ft', o⟩ _ s' _)
  rw [h.suite]; exact hl n hn s s' q

theorem SimL.orelse (h : Sound o t) {l : List Stmt} (hl : SimL (.eq o ft ft') Same N l (travBody t l)) :
    SimL (.eq o ft ft') Same N l (if l.isEmpty then [] else t.suiteF false (travBody t l)) := by
  cases l with
  | nil => exact hl
  | cons x xs => exact hl.suite h

theorem exec1_trav_flat (h : Sound o t) (ft : FTab) (n : Nat) (s : St) (st : Stmt) (hst : isBlockStmt st = false) :
    exec1 ⟨ft, o⟩ n s (travStmt t st) = exec1 ⟨ft, o⟩ n s st := by
  cases st
  case functionDef =>
    -- a `def` is executed without looking at its body
    rw [travStmt, h.stmt, exec1_simple _ _ _ _ rfl rfl rfl, exec1_simple _ _ _ _ rfl rfl rfl]
    simp only [simpleExec, isPlainDef_functionDef]
  case classDef => rw [travStmt, h.stmt, exec1_opaque _ _ _ _ rfl, exec1_opaque _ _ _ _ rfl]
  case with_ | match_ => rw [exec1_opaque _ _ _ _ rfl, exec1_opaque _ _ _ _ rfl]
  case for_ a _ _ _ _ | try_ a _ _ _ _ =>
    cases a
    · cases hst
    · rw [exec1_opaque _ _ _ _ rfl, exec1_opaque _ _ _ _ rfl]
  case if_ | while_ => cases hst
  all_goals exact h.stmt ..

theorem trav_sim (h : Sound o t) (hC : SimC (.eq o ft ft') N) :
    SimTree (.eq o ft ft') N (travStmt t) (travBody t) (travHandlers t) :=
  BlockInd.all {
    if_ := fun _ _ _ hb he => .if_ ValOK.same (hb.suite h) (he.orelse h)
    while_ := fun _ _ _ hb he => .while_ ValOK.same (hb.suite h) (he.orelse h)
    for_ := fun tg it _ _ hb he => .for_ (.same tg it) (hb.suite h) (he.orelse h)
    try_ := fun _ _ _ _ hb hh he hf => .try_ (hb.suite h) hh (he.orelse h) (hf.orelse h)
    nil := .nil
    cons := fun _ _ h1 hl => .cons h1 hl
    hnil := .nil
    hcons := fun _ _ _ _ hb hr => .cons rfl hb hr
    flat := fun st hst n hn s s' q => by
      show (Runs.eq o ft ft').Rel Same _ (exec1 ⟨ft', o⟩ _ s' _)
      rw [exec1_trav_flat h _ _ _ st hst]; exact Sim1.same hst hC n hn s s' q }

end

theorem trav_sim_all (t : SuiteT) (h : Sound o t) (ft : FTab) (hft : Stable t ft) (N : Nat) :
    SimTree (.eq o ft (mapT t ft)) N (travStmt t) (travBody t) (travHandlers t) :=
  SimTree.all (fun _ => trav_sim h)
    (fun f (hl : ft.lookup f = none) => Or.inr ((lookup_mapT t f ft).trans (congrArg _ hl)))
    (fun f ps b (hl : ft.lookup f = some (ps, b)) =>
      ⟨bodyT t b, (lookup_mapT t f ft).trans (congrArg _ hl), h.globals _, Or.inr (hft f _ _ hl),
        fun n s => (h.body _ n s _).trans (congrArg asCall (h.suite _ n s false _))⟩) N

def Good (o : Bool) (t : SuiteT) (ft : FTab) (n : Nat) : Prop :=
  (∀ s st, exec1 ⟨mapT t ft, o⟩ n s (travStmt t st) = exec1 ⟨ft, o⟩ n s st) ∧
  (∀ s l, execL ⟨mapT t ft, o⟩ n s (travBody t l) = execL ⟨ft, o⟩ n s l)

theorem execH_ok (t : SuiteT) (h : Sound o t) (ft : FTab) (hft : Stable t ft) (n : Nat) (ih : ∀ m, m < n → Good o t ft m) :
    (hs : List Handler) → (s : St) → (x : String) → execH ⟨mapT t ft, o⟩ n s x (travHandlers t hs) = execH ⟨ft, o⟩ n s x hs :=
  fun hs s x => ((trav_sim_all t h ft hft n).handlers s x hs).resolve_left id

/-- for the module level: the transformer neither makes nor loses table entries -/
structure TableSound (t : SuiteT) : Prop where
  stmtDef : ∀ st, defOf (t.stmtF st) = defOf st
  suiteDef : ∀ b, collect (t.suiteF true b) = collect b

theorem defOf_trav (t : SuiteT) (ht : TableSound t) : ∀ st : Stmt,
    defOf (travStmt t st) = (defOf st).map (fun e => (e.1, e.2.1, bodyT t e.2.2))
  | .functionDef a n args body decs ret tps => by
    simp only [travStmt, ht.stmtDef, defOf_functionDef]
    cases plainHead a decs ret tps <;> cases paramNames args <;> rfl
  | .for_ .. | .while_ .. | .if_ .. | .with_ .. | .match_ .. | .try_ false .. | .try_ true .. => rfl
  | .classDef .. | .return_ _ | .delete _ | .assign .. | .typeAlias .. | .augAssign .. | .annAssign .. | .raise_ .. | .assert_ ..
  | .import_ .. | .importFrom .. | .global _ | .nonlocal _ | .expr _ | .pass | .break_ | .continue_ => (ht.stmtDef _).trans rfl

theorem collect_trav (t : SuiteT) (ht : TableSound t) (l : List Stmt) : collect (travBody t l) = mapT t (collect l) := by
  rw [travBody_eq_map]; exact collect_mapBodies (B := fun _ => bodyT t) rfl (fun _ _ _ _ => rfl) (defOf_trav t ht) l

/-- same printed lines, same ending, same globals, same import events, for every fuel (so the same divergence up to any bound) -/
theorem runWith_trav (t : SuiteT) (h : Sound o t) (ht : TableSound t) (n : Nat) (m : Module)
    (hst : Stable t (collect m.body)) :
    runWith o n (travModule t m) = runWith o n m := by
  unfold runWith travModule
  simp only
  rw [ht.suiteDef, collect_trav t ht, h.suite]
  exact congrArg (observe · St.init) (((trav_sim_all t h _ hst n).list St.init m.body).resolve_left id)

theorem run_trav (t : SuiteT) (h : Sound false t) (ht : TableSound t) (n : Nat) (m : Module)
    (hst : Stable t (collect m.body)) :
    run n (travModule t m) = run n m := runWith_trav t h ht n m hst

theorem stable_of_scopeStable (t : SuiteT) (m : Module) (h : scopeStable t m = true) : Stable t (collect m.body) :=
  fun f ps b hl => by simpa using List.all_eq_true.mp h _ (lookup_mem _ f (ps, b) hl)

theorem globalsOf_trav (t : SuiteT) (hs : ∀ st, globalsOf (t.stmtF st) = globalsOf st) : ∀ st : Stmt,
    globalsOf (travStmt t st) = globalsOf st
  | .for_ .. | .while_ .. | .if_ .. | .with_ .. | .match_ .. | .try_ false .. | .try_ true .. => rfl
  | .functionDef .. | .classDef .. | .return_ _ | .delete _ | .assign .. | .typeAlias .. | .augAssign .. | .annAssign .. | .raise_ ..
  | .assert_ .. | .import_ .. | .importFrom .. | .global _ | .nonlocal _ | .expr _ | .pass | .break_ | .continue_ => (hs _).trans rfl

theorem Sound.of_pieces {t : SuiteT}
    (suite : ∀ ft fuel s m b, execL ⟨ft, o⟩ fuel s (t.suiteF m b) = execL ⟨ft, o⟩ fuel s b)
    (stmt : ∀ ft fuel s st, exec1 ⟨ft, o⟩ fuel s (t.stmtF st) = exec1 ⟨ft, o⟩ fuel s st)
    (body : ∀ ft fuel s b, asCall (execL ⟨ft, o⟩ fuel s (t.funcBodyF b)) = asCall (execL ⟨ft, o⟩ fuel s b))
    (gSuite : ∀ b, declaredGlobals (t.suiteF false b) = declaredGlobals b)
    (gStmt : ∀ st, globalsOf (t.stmtF st) = globalsOf st)
    (gBody : ∀ b, declaredGlobals (t.funcBodyF b) = declaredGlobals b) : Sound o t :=
  ⟨suite, stmt, body, fun b => by
    unfold bodyT; rw [gBody, gSuite, travBody_eq_map]; exact declaredGlobals_map _ (globalsOf_trav t gStmt) b⟩

theorem suiteT_sound (F : Bool → List Stmt → List Stmt)
    (hE : ∀ ft fuel s m b, execL ⟨ft, o⟩ fuel s (F m b) = execL ⟨ft, o⟩ fuel s b)
    (hG : ∀ b, declaredGlobals (F false b) = declaredGlobals b) : Sound o (suiteT F) :=
  Sound.of_pieces hE (fun _ _ _ _ => rfl) (fun _ _ _ _ => rfl) hG (fun _ => rfl) (fun _ => rfl)

theorem suiteT_table (F : Bool → List Stmt → List Stmt) (hC : ∀ b, collect (F true b) = collect b) : TableSound (suiteT F) :=
  ⟨fun _ => rfl, hC⟩

theorem suiteT_bindOK (F : Bool → List Stmt → List Stmt) (hB : ∀ m b, obind bindS (F m b) = obind bindS b)
    (hB0 : ∀ m b, obind bindS0 (F m b) = obind bindS0 b) : BindOK (suiteT F) :=
  ⟨fun _ => rfl, fun _ => rfl, fun m b => by rw [bindL_eq, bindL_eq]; exact hB m b,
    fun m b => by rw [bindTop_eq, bindTop_eq]; exact hB0 m b, fun _ => rfl⟩

structure Neutral (t : SuiteT) : Prop where
  sound : ∀ o, Sound o t
  table : TableSound t
  bind : BindOK t

theorem Neutral.runWith {t : SuiteT} (h : Neutral t) (o : Bool) (n : Nat) (m : Module) :
    runWith o n (travModule t m) = runWith o n m :=
  runWith_trav t (h.sound o) h.table n m fun _ _ b _ => congrArg _ (bindTop_bodyT t h.bind b)

theorem stmtT_neutral (g : Stmt → Stmt)
    (hE : ∀ o ft fuel s st, exec1 ⟨ft, o⟩ fuel s (g st) = exec1 ⟨ft, o⟩ fuel s st)
    (hG : ∀ st, globalsOf (g st) = globalsOf st) (hD : ∀ st, defOf (g st) = defOf st)
    (hB : ∀ st, bindS (g st) = bindS st) (hB0 : ∀ st, bindS0 (g st) = bindS0 st) : Neutral (Transforms.mapT g id) :=
  ⟨fun o => Sound.of_pieces (fun _ _ _ _ _ => rfl) (hE o) (fun _ _ _ _ => rfl) (fun _ => rfl) hG (fun _ => rfl),
    ⟨hD, fun _ => rfl⟩, ⟨hB, hB0, fun _ _ => rfl, fun _ _ => rfl, fun _ => rfl⟩⟩

structure NoOpPred (o : Bool) (q : Stmt → Bool) : Prop where
  exec : ∀ ft fuel s st, q st = true → exec1 ⟨ft, o⟩ fuel s st = .ok (.normal s)
  notDef : ∀ st, q st = true → defOf st = none
  notGlobal : ∀ st, q st = true → globalsOf st = []

theorem exec_zero (ft : FTab) (fuel : Nat) (s : St) : exec1 ⟨ft, o⟩ fuel s zeroStmt = .ok (.normal s) := by
  rw [exec1_simple _ _ _ _ rfl rfl rfl]; rfl

section
variable {q : Stmt → Bool} {F : Bool → List Stmt → List Stmt} (hF : Unseen q F)
include hF

theorem filter_sound (hq : NoOpPred o q) : Sound o (suiteT F) :=
  suiteT_sound F
    (fun ft fuel s m b => congrFun (hF (P := fun l s => execL ⟨ft, o⟩ fuel s l) (op := fun k k' s => (k s).andThen k')
      (fun a b => funext (execL_append ft fuel a b)) (funext fun s => by rw [execL_cons, exec_zero])
      (fun st h => funext fun s => by rw [execL_cons, hq.exec ft fuel s st h]) m b) s)
    (hF declaredGlobals_append rfl (fun st h => by simp only [declaredGlobals, hq.notGlobal st h]; rfl) false)

theorem filter_table (hq : NoOpPred o q) : TableSound (suiteT F) :=
  suiteT_table F (hF collect_append rfl (fun st h => by simp only [collect, hq.notDef st h]) true)

theorem filter_bindOK (hb : ∀ st, q st = true → bindS st = some []) : BindOK (suiteT F) :=
  suiteT_bindOK F
    (hF (obind_append bindS) rfl fun st h => by simp only [obind, hb st h]; rfl)
    (hF (obind_append bindS0) rfl fun st h => by
      simp only [obind, bindS0_of_bindS st (hb st h)]; rfl)

end

theorem isPass_inv {st : Stmt} (h : isPass st = true) : st = .pass := by
  cases st <;> simp [isPass] at h; rfl

theorem isPass_noop : NoOpPred o isPass where
  exec _ _ _ _ h := by cases isPass_inv h; exact (exec1_simple _ _ _ _ rfl rfl rfl).trans rfl
  notDef _ h := by cases isPass_inv h; rfl
  notGlobal _ h := by cases isPass_inv h; rfl

theorem isAssert_inv {st : Stmt} (h : isAssert st = true) : ∃ c m, st = .assert_ c m := by
  cases st <;> simp [isAssert] at h; exact ⟨_, _, rfl⟩

theorem isAssert_noop : NoOpPred true isAssert where
  exec _ _ _ _ h := by obtain ⟨c, m, rfl⟩ := isAssert_inv h; exact (exec1_flat _ _ _ _ rfl).trans rfl
  notDef _ h := by obtain ⟨c, m, rfl⟩ := isAssert_inv h; rfl
  notGlobal _ h := by obtain ⟨c, m, rfl⟩ := isAssert_inv h; rfl

/-- the documented spellings are tests of the flag -/
theorem condE_of_isDebugTest (opt : Bool) (s : St) (c : Expr) (h : isDebugTest c = true) :
    condE opt s c = some (.ok (.bool (!opt))) := by
  unfold isDebugTest at h
  split at h
  · simp [condE, isDbgName]
  · simp [condE, isDbgName, debugCmp, evalE, debugSense]
  · simp [condE, isDbgName, debugCmp, evalE, debugSense]
  · simp [condE, isDbgName, debugCmp, evalE, debugSense]
  · simp at h

theorem canRemoveDebug_noop : NoOpPred true canRemoveDebug where
  exec ft fuel s _ h := by
    obtain ⟨test, body, rfl, ht⟩ := canRemoveDebug_inv h
    rw [exec1_if, condE_of_isDebugTest true s test ht]
    exact execL_nil ft fuel s
  notDef _ h := by obtain ⟨_, _, rfl, _⟩ := canRemoveDebug_inv h; rfl
  notGlobal _ h := by obtain ⟨_, _, rfl, _⟩ := canRemoveDebug_inv h; rfl

end PMV.PyCore
