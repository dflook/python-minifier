import PMV.Proofs.PyCoreTrans
import PMV.Model.HoistAst
/-
  T01.14: hoisting repeated literals preserves the behaviour.  The hoisted run has extra variables (the names that hold the
  constants): the module's in the globals, a function's own in its locals.  `RelH`: every name of the program reads the same
  in both runs, output and import events are the same, and each constant's name holds its value.  Expressions and the
  statements without a block are treated here, the rest by the congruences of `PyCoreSim` (`sim_h`).
-/
namespace PMV.PyCore
open PMV PMV.RenameAst PMV.HoistAst

variable {o : Bool}

/-- `GA`: the names of all module-level constants (their globals may differ); `GG` / `GL`: the module-level and
    function-level constants that are in place, with their values; `P`: the names of the program -/
structure RelH (P : String → Bool) (GA : List String) (GG GL : List (String × Val)) (s s' : St) : Prop where
  out : s'.out = s.out
  imports : s'.imports = s.imports
  mode : s'.locals.isSome = s.locals.isSome
  gget : ∀ x, x ∉ GA → Env.get s'.globals x = Env.get s.globals x
  isLocal : ∀ x, P x = true → s'.isLocal x = s.isLocal x
  lget : ∀ x, P x = true → s.isLocal x = true →
    (s'.locals.bind (fun l => Env.get l x)) = (s.locals.bind (fun l => Env.get l x))
  gghost : ∀ a v, (a, v) ∈ GG → s'.isLocal a = false ∧ Env.get s'.globals a = some v
  lghost : ∀ a v, (a, v) ∈ GL → s'.isLocal a = true ∧ (s'.locals.bind (fun l => Env.get l a)) = some v
  ggA : ∀ a v, (a, v) ∈ GG → a ∈ GA
  freshA : ∀ a, a ∈ GA → P a = false
  freshL : ∀ a v, (a, v) ∈ GL → P a = false

variable {P : String → Bool} {GA : List String} {GG GL : List (String × Val)}
variable {g : CMap} {s s' : St}

theorem RelH.lookup {s s' : St} (h : RelH P GA GG GL s s') (x : String) (hx : P x = true) : s'.lookup x = s.lookup x := by
  unfold St.lookup
  rw [h.isLocal x hx]
  by_cases hl : s.isLocal x = true
  · simp only [hl, if_true]; exact h.lget x hx hl
  · have hl' : s.isLocal x = false := by simpa using hl
    simp only [hl', Bool.false_eq_true, if_false]
    apply h.gget
    intro hmem
    rw [h.freshA x hmem] at hx
    exact absurd hx (by simp)

theorem RelH.unbound {s s' : St} (h : RelH P GA GG GL s s') (x : String) (hx : P x = true) : s'.unbound x = s.unbound x := by
  unfold St.unbound; rw [h.isLocal x hx]

theorem RelH.ghostLookup (h : RelH P GA GG GL s s') (a : String) (v : Val) (hm : (a, v) ∈ GG ∨ (a, v) ∈ GL) :
    s'.lookup a = some v := by
  unfold St.lookup
  rcases hm with hm | hm
  · obtain ⟨h1, h2⟩ := h.gghost a v hm
    simp only [h1, Bool.false_eq_true, if_false]; exact h2
  · obtain ⟨h1, h2⟩ := h.lghost a v hm
    simp only [h1, if_true]; exact h2

theorem RelH.fresh (h : RelH P GA GG GL s s') {x : String} (hx : P x = true) {a : String}
    (ha : a ∈ GA ∨ ∃ v, (a, v) ∈ GL) : (a == x) = false := by
  apply beq_eq_false_iff_ne.mpr
  rintro rfl
  rcases ha with ha | ⟨v, ha⟩
  · rw [h.freshA a ha] at hx; exact absurd hx (by simp)
  · rw [h.freshL a v ha] at hx; exact absurd hx (by simp)

theorem RelH.assign {s s' : St} (h : RelH P GA GG GL s s') (x : String) (hx : P x = true) (v : Val) :
    RelH P GA GG GL (s.assign x v) (s'.assign x v) := by
  have hloc := h.isLocal x hx
  exact
    { h with
      out := by rw [out_assign, out_assign]; exact h.out
      imports := by rw [imports_assign, imports_assign]; exact h.imports
      mode := by rw [isSome_assign, isSome_assign]; exact h.mode
      gget := fun y hy => by
        rw [globals_assign, globals_assign, hloc]
        split
        · exact h.gget y hy
        · rw [Env.get_set, Env.get_set, h.gget y hy]
      isLocal := fun y hy => by rw [isLocal_assign, isLocal_assign]; exact h.isLocal y hy
      lget := fun y hy hly => by
        rw [isLocal_assign] at hly
        rw [lget_assign, lget_assign, hloc, h.lget y hy hly]
      -- the constants' names are not names of the program: the assignment does not touch them
      gghost := fun a w hm => by
        obtain ⟨h1, h2⟩ := h.gghost a w hm
        refine ⟨by rw [isLocal_assign]; exact h1, ?_⟩
        rw [globals_assign]
        split
        · exact h2
        · rw [Env.get_set, h.fresh hx (.inl (h.ggA a w hm))]; exact h2
      lghost := fun a w hm => by
        obtain ⟨h1, h2⟩ := h.lghost a w hm
        refine ⟨by rw [isLocal_assign]; exact h1, ?_⟩
        rw [lget_assign, h.fresh hx (.inr ⟨w, hm⟩), Bool.and_false]; exact h2 }

theorem RelH.withOut (h : RelH P GA GG GL s s') (f g : List String → List String) :
    RelH P GA GG GL { s with out := f s.out, imports := g s.imports } { s' with out := f s'.out, imports := g s'.imports } := by
  exact { h with out := congrArg f h.out, imports := congrArg g h.imports }

def Cons (g : CMap) (GG GL : List (String × Val)) : Prop :=
  ∀ c a, cfind g c = some a → ∃ v, constVal c = some v ∧ ((a, v) ∈ GG ∨ (a, v) ∈ GL)

theorem constVal_eval (s : St) (c : Const) (v : Val) (h : constVal c = some v) : evalE s (.constant c) = some (.ok v) := by
  cases c <;> simp [constVal] at h <;> subst h <;> simp [evalE]

theorem constVal_noMod (c : Const) (v : Val) (h : constVal c = some v) : ∀ n, v ≠ .mod n := by
  cases c <;> simp [constVal] at h <;> subst h <;> intro n <;> simp

/-- so no constant's name is one the semantics gives a meaning to -/
def StatH (P : String → Bool) : Prop := ∀ r, r ∈ reserved → P r = true

theorem ghost_not_debug (h : RelH P GA GG GL s s') (hs : StatH P) (a : String) (v : Val)
    (hm : (a, v) ∈ GG ∨ (a, v) ∈ GL) : (a == "__debug__") = false :=
  h.fresh (hs "__debug__" (by simp [reserved])) (hm.imp (h.ggA a v) fun hm => ⟨v, hm⟩)

theorem evalE_ghost (h : RelH P GA GG GL s s') (hs : StatH P) (a : String) (v : Val) (hv : ∀ n, v ≠ .mod n)
    (hm : (a, v) ∈ GG ∨ (a, v) ∈ GL) : evalE s' (.name a .load) = some (.ok v) := by
  simp only [evalE, ghost_not_debug h hs a v hm, Bool.false_eq_true, if_false, h.ghostLookup a v hm]

theorem hoistE_trans (g : CMap) : ExprTrans (hoistE g) (hoistEs g) where
  head e := by
    cases e with
    | constant c => simp only [hoistE]; cases cfind g c <;> rfl
    | _ => rfl
  unaryOp _ _ := rfl
  binOp _ _ _ := rfl
  compare _ _ _ := rfl
  boolOp _ _ := rfl
  ifExp _ _ _ := rfl
  nil := rfl
  cons _ _ := rfl

theorem evalE_name_h (h : RelH P GA GG GL s s') (p : String) (c : Ctx) (hp : P p = true) :
    evalE s' (.name p c) = evalE s (.name p c) := by
  simp only [evalE, h.lookup p hp, h.unbound p hp]

theorem evalE_h (h : RelH P GA GG GL s s') (hs : StatH P) (hc : Cons g GG GL) (e : Expr)
    (hok : okE P e = true) : evalE s' (hoistE g e) = evalE s e :=
  evalE_trans (s := s) (s' := s') (hoistE_trans g)
    (fun c => by
      simp only [hoistE]
      cases hf : cfind g c with
      | none => cases c <;> rfl
      | some a =>
        obtain ⟨v, hv, hm⟩ := hc c a hf
        simp only
        rw [evalE_ghost h hs a v (constVal_noMod c v hv) hm, constVal_eval s c v hv])
    (evalE_name_h h) e hok

theorem evalArgs_h (h : RelH P GA GG GL s s') (hs : StatH P) (hc : Cons g GG GL) (args : List Expr)
    (hok : okEs P args = true) : evalArgs s' (hoistEs g args) = evalArgs s args :=
  evalArgs_trans (hoistE_trans g) (evalE_h h hs hc) args hok

def okHS (_g : CMap) (P : String → Bool) (st : Stmt) : Bool := (namesS st).all P
def okHL (_g : CMap) (P : String → Bool) (l : List Stmt) : Bool := (namesL l).all P
def okHH (_g : CMap) (P : String → Bool) (hs : List Handler) : Bool := (namesH hs).all P

theorem isConst_hoistE (g : CMap) (e : Expr) (h : isConst e = false) : isConst (hoistE g e) = false := by
  cases e with
  | constant => cases h
  | _ => rfl

theorem asNameCall_h (g : CMap) (e : Expr) :
    asNameCall (hoistE g e) = (asNameCall e).map (fun p => (p.1, p.2.1, hoistEs g p.2.2)) := by
  cases e
  case constant c =>
    simp only [hoistE]
    cases cfind g c <;> rfl
  case call f args kws => rw [hoistE, asNameCall_call, asNameCall_call]; cases nameOf f <;> cases kws <;> rfl
  all_goals rfl

theorem printArgs_h (g : CMap) (e : Expr) : printArgs (hoistE g e) = (printArgs e).map (hoistEs g) := by
  rw [printArgs_eq, printArgs_eq, asNameCall_h]
  cases asNameCall e with
  | none => rfl
  | some p =>
    simp only [Option.map_some, Option.bind_some]
    split <;> rfl

theorem exprStmt_h (h : RelH P GA GG GL s s') (hs : StatH P) (hc : Cons g GG GL) (e : Expr)
    (hok : okE P e = true) :
    ResRel (RelH P GA GG GL) (exprStmt s e) (simpleExec s' (hoistStmt g (.expr e))) := by
  simp only [hoistStmt]
  by_cases hstr : isStrConst e = true
  · simp only [hstr, if_true]
    have hcst : isConst e = true := by
      cases e with
      | constant => rfl
      | _ => cases hstr
    show ResRel _ (exprStmt s e) (exprStmt s' e)
    unfold exprStmt
    simp only [hcst, if_true]; exact h
  · simp only [hstr, Bool.false_eq_true, if_false]
    show ResRel _ (exprStmt s e) (exprStmt s' (hoistE g e))
    by_cases hcst : isConst e = true
    · -- a `None` / `True` / number statement: nothing happens; its hoisted form reads the constant's name
      cases e with
      | constant c =>
        cases hf : cfind g c with
        | none =>
          have he : hoistE g (.constant c) = .constant c := by simp [hoistE, hf]
          rw [he]; unfold exprStmt; simp only [isConst, if_true]; exact h
        | some a =>
          have he : hoistE g (.constant c) = .name a .load := by simp [hoistE, hf]
          obtain ⟨v, hv, hm⟩ := hc c a hf
          rw [he]; unfold exprStmt
          simp only [isConst, if_true, Bool.false_eq_true, if_false, printArgs, evalThen,
            evalE_ghost h hs a v (constVal_noMod c v hv) hm]
          exact h
      | _ => cases hcst
    · have hcst' : isConst e = false := by simpa using hcst
      unfold exprStmt
      rw [isConst_hoistE g e hcst', printArgs_h]
      simp only [hcst', Bool.false_eq_true, if_false]
      cases hp : printArgs e with
      | none => exact evalThen_sim (evalE_h h hs hc e hok) h (fun _ => h)
      | some args =>
        simp only [Option.map_some]
        rw [evalArgs_h h hs hc args (okEs_of_printArgs e args hp hok)]
        cases evalArgs s args with
        | none => trivial
        | some r =>
          cases r with
          | error x => exact ⟨rfl, h⟩
          | ok vs => exact h.withOut (fun out => out ++ [" ".intercalate (vs.map Val.show)]) id

/-- `step`: `importOne`, `importFromOne m l`; the statement is not changed, so both runs fold over the same names -/
theorem foldlAlias_h {step : St → Alias → St} {bound : Alias → String}
    (hstep : ∀ {s s'} (a : Alias), RelH P GA GG GL s s' → P (bound a) = true → RelH P GA GG GL (step s a) (step s' a)) :
    ∀ (names : List Alias) (s s' : St), RelH P GA GG GL s s' → (names.map bound).all P = true →
      RelH P GA GG GL (names.foldl step s) (names.foldl step s')
  | [] => fun _ _ h _ => h
  | a :: rest => fun s s' h hP => by
    simp only [List.map_cons, List.all_cons, Bool.and_eq_true] at hP
    exact foldlAlias_h hstep rest _ _ (hstep a h hP.1) hP.2

theorem simpleExec_h (h : RelH P GA GG GL s s') (hs : StatH P) (hc : Cons g GG GL) (st : Stmt)
    (hok : okHS g P st = true) : ResRel (RelH P GA GG GL) (simpleExec s st) (simpleExec s' (hoistStmt g st)) := by
  have hn : (namesS st).all P = true := hok
  cases st with
  | pass | break_ | continue_ | global _ => exact h
  | functionDef a n args body decs ret tps => exact .ite h trivial
  | return_ v =>
    cases v with
    | none => exact ⟨rfl, h⟩
    | some e => exact evalThen_sim (evalE_h h hs hc e hn) h (fun v => ⟨rfl, h⟩)
  | expr e => exact exprStmt_h h hs hc e hn
  | assign ts e =>
    simp only [hoistStmt, simpleExec]
    simp only [namesS, List.all_append, Bool.and_eq_true] at hn
    cases hx : assignTarget ts with
    | none => trivial
    | some x =>
      have hPx : P x = true := List.all_eq_true.mp hn.1 x (assignTarget_mem ts x hx)
      exact evalThen_sim (evalE_h h hs hc e hn.2) h (fun v => h.assign x hPx v)
  | augAssign tg op e =>
    simp only [hoistStmt, simpleExec]
    simp only [namesS, List.all_append, Bool.and_eq_true] at hn
    cases hx : nameOf tg with
    | none => trivial
    | some p =>
      obtain ⟨x, c⟩ := p
      cases nameOf_some tg x c hx
      have hPx : P x = true := okE_name hn.1
      have hb : okE P (.binOp (.name x c) op e) = true := okE_binOp.mpr ⟨hn.1, hn.2⟩
      have := evalE_h h hs hc (.binOp (.name x c) op e) hb
      simp only [hoistE] at this
      exact evalThen_sim this h (fun v => h.assign x hPx v)
  | assert_ c msg =>
    simp only [namesS, List.all_append, Bool.and_eq_true] at hn
    exact evalThen_sim (evalE_h h hs hc c hn.1) h fun v => .ite h ⟨rfl, h⟩
  | import_ names =>
    exact foldlAlias_h (fun a h hP => (h.assign (aliasBound a) hP (.mod a.name)).withOut id (fun i => i ++ ["import " ++ a.name]))
      names s s' h hn
  | importFrom m names l =>
    simp only [hoistStmt, simpleExec]
    exact .ite trivial (foldlAlias_h (step := importFromOne m l) (fun a h hP => (h.assign (fromBound a) hP _).withOut id
      (fun i => i ++ ["from " ++ fromName m l ++ " import " ++ a.name])) names s s' h hn)
  | raise_ e c =>
    simp only [hoistStmt, simpleExec]
    cases raiseName e c with
    | none => trivial
    | some n => exact .ite ⟨rfl, h⟩ trivial
  | annAssign tg ann v simple =>
    simp only [hoistStmt, simpleExec, h.mode]
    simp only [namesS, List.all_append, Bool.and_eq_true] at hn
    refine .ite ?_ trivial
    cases hx : nameOf tg with
    | none => trivial
    | some p =>
      obtain ⟨x, c⟩ := p
      cases nameOf_some tg x c hx
      have hPx : P x = true := okE_name hn.1.1
      cases v with
      | none => exact h
      | some e =>
        simp only [hoistO]
        exact evalThen_sim (evalE_h h hs hc e hn.2) h (fun w => h.assign x hPx w)
  | _ => trivial

theorem callOf_h (g : CMap) (st : Stmt) :
    callOf (hoistStmt g st) = (callOf st).map (fun p => (p.1, hoistEs g p.2.1, p.2.2)) := by
  cases st
  case expr e =>
    simp only [hoistStmt]
    by_cases hstr : isStrConst e = true
    · simp only [hstr, if_true]
      cases e with
      | constant => rfl
      | _ => cases hstr
    · simp only [hstr, Bool.false_eq_true, if_false]
      rw [callOf_expr_eq, callOf_expr_eq, asNameCall_h]
      cases asNameCall e with
      | none => rfl
      | some p =>
        simp only [Option.map_some, Option.bind_some]
        split <;> rfl
  case assign ts v =>
    simp only [hoistStmt]
    rw [callOf_assign_eq, callOf_assign_eq, asNameCall_h]
    cases assignTarget ts with
    | none => rfl
    | some x =>
      cases asNameCall v with
      | none => rfl
      | some p => rfl
  all_goals rfl

theorem hoistE_eq_name (g : CMap) (e : Expr) (x : String) (c : Ctx) (h : hoistE g e = .name x c) :
    e = .name x c ∨ ∃ k, e = .constant k ∧ cfind g k = some x := by
  cases e with
  | constant k =>
    right
    simp only [hoistE] at h
    cases hf : cfind g k with
    | none => rw [hf] at h; cases h
    | some a => rw [hf] at h; cases h; exact ⟨k, rfl, hf⟩
  | name y c' => exact .inl h
  | _ => cases h

theorem isDbgName_h (g : CMap) (hg : ∀ k a, cfind g k = some a → (a == "__debug__") = false) (c : Expr) :
    isDbgName (hoistE g c) = isDbgName c := by
  cases c
  case constant k =>
    simp only [hoistE]
    cases hf : cfind g k with
    | none => rfl
    | some a => simp [isDbgName, hg k a hf]
  all_goals rfl

theorem debugCmp_h (g : CMap) (hg : ∀ k a, cfind g k = some a → (a == "__debug__") = false) (c : Expr) :
    debugCmp (hoistE g c) = (debugCmp c).map (fun p => (p.1, hoistE g p.2)) := by
  cases c with
  | compare l ops cs => exact debugCmp_trans (hoistE_trans g) l ops cs (isDbgName_h g hg l)
  | constant k => simp only [hoistE]; cases cfind g k <;> rfl
  | _ => rfl

theorem condE_h (h : RelH P GA GG GL s s') (hs : StatH P) (hc : Cons g GG GL) (c : Expr)
    (hok : okE P c = true) : condE o s' (hoistE g c) = condE o s c := by
  have hg : ∀ k a, cfind g k = some a → (a == "__debug__") = false := fun k a hk =>
    have ⟨v, _, hm⟩ := hc k a hk
    ghost_not_debug h hs a v hm
  exact condE_trans c (isDbgName_h g hg c) (debugCmp_h g hg c) (evalE_h h hs hc) hok

theorem forRange_h (g : CMap) (tg it : Expr) :
    forRange tg (hoistE g it) = (forRange tg it).map (fun p => (p.1, hoistE g p.2)) := by
  rw [forRange_eq, forRange_eq, asNameCall_h]
  cases nameOf tg with
  | none => rfl
  | some p =>
    obtain ⟨x, c⟩ := p
    cases asNameCall it with
    | none => rfl
    | some q =>
      obtain ⟨f, c2, args⟩ := q
      simp only [Option.map_some]
      match args with
      | [] => rfl
      | [e] => simp only [hoistEs]; split <;> rfl
      | _ :: _ :: _ => rfl

def hoistFT (w : HoistW) : FTab → FTab
  | [] => []
  | (f, ps, b) :: rest => (f, ps, hoistFnBody (w.gfn f) (w.proFn f) b) :: hoistFT w rest

theorem lookup_hoistFT (w : HoistW) (f : String) (ft : FTab) :
    (hoistFT w ft).lookup f = (ft.lookup f).map (fun pb => (pb.1, hoistFnBody (w.gfn f) (w.proFn f) pb.2)) :=
  lookup_mapBodies (B := fun g b => hoistFnBody (w.gfn g) (w.proFn g) b) rfl (fun _ _ _ _ => rfl) f ft

/-- what a caller learns about a finished call -/
structure RelOut (GA : List String) (GG : List (String × Val)) (s s' : St) : Prop where
  out : s'.out = s.out
  imports : s'.imports = s.imports
  gget : ∀ x, x ∉ GA → Env.get s'.globals x = Env.get s.globals x
  gghost : ∀ a v, (a, v) ∈ GG → Env.get s'.globals a = some v

theorem RelH.toOut (h : RelH P GA GG GL s s') : RelOut GA GG s s' :=
  ⟨h.out, h.imports, h.gget, fun a v hm => (h.gghost a v hm).2⟩

theorem RelH.back {s s' s1 s1' : St} (h : RelH P GA GG GL s s') (h1 : RelOut GA GG s1 s1') :
    RelH P GA GG GL { s with globals := s1.globals, out := s1.out, imports := s1.imports }
      { s' with globals := s1'.globals, out := s1'.out, imports := s1'.imports } := by
  exact { h with out := h1.out, imports := h1.imports, gget := h1.gget,
                  gghost := fun a v hm => ⟨(h.gghost a v hm).1, h1.gghost a v hm⟩ }

def CalleeOKH (o : Bool) (w : HoistW) (ft : FTab) (GA : List String) (GG : List (String × Val)) (k : Nat) : Prop :=
  ∀ f ps b bound bound', ft.lookup f = some (ps, b) → bindTop b = some bound →
    bindTop (hoistFnBody (w.gfn f) (w.proFn f) b) = some bound' →
    ∀ (g g' : Env) (out imps : List String) (vs : List Val),
      (∀ x, x ∉ GA → Env.get g' x = Env.get g x) → (∀ a v, (a, v) ∈ GG → Env.get g' a = some v) →
      (∀ v ∈ vs, ∀ n, v ≠ .mod n) → ps.length = vs.length →
    ResRel (RelOut GA GG)
      (asCall (execL ⟨ft, o⟩ k
        { globals := g, locals := some (ps.zip vs), declGlobal := declaredGlobals b, out := out, imports := imps,
          localNames := ps ++ canonNames bound } b))
      (asCall (execL ⟨hoistFT w ft, o⟩ k
        { globals := g', locals := some (ps.zip vs), declGlobal := declaredGlobals (hoistFnBody (w.gfn f) (w.proFn f) b), out := out,
          imports := imps, localNames := ps ++ canonNames bound' } (hoistFnBody (w.gfn f) (w.proFn f) b)))

def GoodH (o : Bool) (w : HoistW) (ft : FTab) (GA : List String) (GG : List (String × Val)) (k : Nat) : Prop :=
  (∀ (g : CMap) (P : String → Bool) (GL : List (String × Val)), Cons g GG GL → StatH P → ∀ s s', RelH P GA GG GL s s' →
      ∀ st, okHS g P st = true →
      ResRel (RelH P GA GG GL) (exec1 ⟨ft, o⟩ k s st) (exec1 ⟨hoistFT w ft, o⟩ k s' (hoistStmt g st))) ∧
  (∀ (g : CMap) (P : String → Bool) (GL : List (String × Val)), Cons g GG GL → StatH P → ∀ s s', RelH P GA GG GL s s' →
      ∀ l, okHL g P l = true →
      ResRel (RelH P GA GG GL) (execL ⟨ft, o⟩ k s l) (execL ⟨hoistFT w ft, o⟩ k s' (hoistBody g l))) ∧
  CalleeOKH o w ft GA GG k

def StaticOKH (w : HoistW) (ft : FTab) : Prop :=
  ∀ f ps b, ft.lookup f = some (ps, b) → (bindTop (hoistFnBody (w.gfn f) (w.proFn f) b)).isSome = (bindTop b).isSome

abbrev hoistRuns (o : Bool) (w : HoistW) (ft : FTab) : Runs := .eq o ft (hoistFT w ft)

theorem callFn_h (w : HoistW) (ft : FTab) (hst : StaticOKH w ft) (N : Nat) (hcal : ∀ k, k < N → CalleeOKH o w ft GA GG k)
    (h : RelH P GA GG GL s s') (hs : StatH P) (hc : Cons g GG GL) (f : String) (args : List Expr)
    (tgt : Option String) (hargs : okEs P args = true) (htgt : ∀ x, tgt = some x → P x = true) (n : Nat) (hn : n ≤ N) :
    (hoistRuns o w ft).Rel (RelH P GA GG GL) (callFn ⟨ft, o⟩ n s f args tgt) (callFn ⟨hoistFT w ft, o⟩ n s' f (hoistEs g args) tgt) := by
  refine callFn_rel (K := hoistRuns o w ft) (Qc := RelOut GA GG) h (.of_eq (evalArgs_h h hs hc args hargs))
    (fun (hl : ft.lookup f = none) => Or.inr ((lookup_hoistFT w f ft).trans (by rw [hl]; rfl)))
    (fun ps b (hl : ft.lookup f = some (ps, b)) => ?_) (fun _ _ q => h.back q) ?_
  · refine ⟨_, (lookup_hoistFT w f ft).trans (by rw [hl]; rfl), Or.inr (hst f ps b hl), ?_⟩
    intro k bound bound' vs hk hb hb' hev hlen
    have hcal := hcal k (Nat.lt_of_lt_of_le hk hn) f ps b bound bound' hl hb hb' s.globals s'.globals s.out s.imports vs
      h.gget (fun a v hm => (h.gghost a v hm).2) (evalArgs_noMod s args vs hev) hlen
    unfold St.enter
    rw [h.out, h.imports]
    exact .of_rel hcal
  · intro t t' v q
    cases tgt with
    | none => exact q
    | some x => exact q.assign x (htgt x rfl) v

theorem isBlockStmt_hoist (g : CMap) (st : Stmt) : isBlockStmt (hoistStmt g st) = isBlockStmt st := by
  cases st
  case try_ star _ _ _ _ => cases star <;> rfl
  case for_ isAsync _ _ _ _ => cases isAsync <;> rfl
  case expr e => simp only [hoistStmt]; split <;> rfl
  all_goals rfl

theorem isAssertStmt_hoist (g : CMap) (st : Stmt) : isAssertStmt (hoistStmt g st) = isAssertStmt st := by
  cases st
  case expr e => simp only [hoistStmt]; split <;> rfl
  all_goals rfl

theorem flat_h (w : HoistW) (ft : FTab) (hst : StaticOKH w ft) (N : Nat) (hcal : ∀ k, k < N → CalleeOKH o w ft GA GG k)
    (hs : StatH P) (hc : Cons g GG GL) (st : Stmt) (hok : okHS g P st = true) (hblk : isBlockStmt st = false) :
    Sim1 (hoistRuns o w ft) (RelH P GA GG GL) N st (hoistStmt g st) := by
  refine .flat hblk ((isBlockStmt_hoist g st).trans hblk) (isAssertStmt_hoist g st) ?_
  rw [callOf_h g st]
  cases hcl : callOf st with
  | none => exact ⟨rfl, fun s s' h => .of_rel (simpleExec_h h hs hc st hok)⟩
  | some p =>
    have hnm := callOf_names st p.1 p.2.1 p.2.2 hcl hok
    exact ⟨_, _, rfl, fun n hn s s' h => callFn_h w ft hst N hcal h hs hc p.1 p.2.1 p.2.2 hnm.1 hnm.2 n hn⟩

theorem sim_h (w : HoistW) (ft : FTab) (hst : StaticOKH w ft) (N : Nat) (hcal : ∀ k, k < N → CalleeOKH o w ft GA GG k)
    (hs : StatH P) (hc : Cons g GG GL) :
    BlockInd (fun st => okHS g P st = true → Sim1 (hoistRuns o w ft) (RelH P GA GG GL) N st (hoistStmt g st))
      (fun l => okHL g P l = true → SimL (hoistRuns o w ft) (RelH P GA GG GL) N l (hoistBody g l))
      (fun hl => okHH g P hl = true → SimH (hoistRuns o w ft) (RelH P GA GG GL) N hl (hoistHandlers g hl)) where
  flat st hblk hok := flat_h w ft hst N hcal hs hc st hok hblk
  if_ c b l ihb ihl hok := by
    have hp := names_if hok
    simp only [hoistStmt]
    exact .if_ (fun s s' h => .of_eq (condE_h h hs hc c hp.1)) (ihb hp.2.1) (ihl hp.2.2)
  while_ c b l ihb ihl hok := by
    have hp := names_if (c := c) hok
    simp only [hoistStmt]
    exact .while_ (fun s s' h => .of_eq (evalE_h h hs hc c hp.1)) (ihb hp.2.1) (ihl hp.2.2)
  for_ tg it b l ihb ihl hok := by
    have hp := names_for hok
    simp only [hoistStmt]
    refine .for_ (ν := id) ⟨forRange_h g tg it, fun x e hfr => ?_⟩ (ihb hp.2.2.1) (ihl hp.2.2.2)
    have hxe := forRange_names tg it x e hfr hp.1 hp.2.1
    exact ⟨fun s s' h => .of_eq (evalE_h h hs hc e hxe.2), fun s s' v h => h.assign x hxe.1 v⟩
  try_ b hl l f ihb ihh ihl ihf hok := by
    have hp := names_try hok
    simp only [hoistStmt]
    exact .try_ (ihb hp.1) (ihh hp.2.1) (ihl hp.2.2.1) (ihf hp.2.2.2)
  nil _ := by simp only [hoistBody]; exact .nil
  cons st l ihs ihl hok := by
    have hp := names_cons hok
    simp only [hoistBody]
    exact .cons (ihs hp.1) (ihl hp.2)
  hnil _ := by simp only [hoistHandlers]; exact .nil
  hcons ty nm b hl ihb ihh hok := by
    have hp := names_hcons hok
    simp only [hoistHandlers]
    exact .cons rfl (ihb hp.1) (ihh hp.2)

theorem exec1_h (w : HoistW) (ft : FTab) (hst : StaticOKH w ft) (n : Nat) (ih : ∀ k, k < n → GoodH o w ft GA GG k)
    (hs : StatH P) (hc : Cons g GG GL) (st : Stmt) (s s' : St) (h : RelH P GA GG GL s s') (hok : okHS g P st = true) :
    ResRel (RelH P GA GG GL) (exec1 ⟨ft, o⟩ n s st) (exec1 ⟨hoistFT w ft, o⟩ n s' (hoistStmt g st)) :=
  Runs.rel_eq.mp ((sim_h w ft hst n (fun k hk => (ih k hk).2.2) hs hc).stmt st hok n (Nat.le_refl n) s s' h)

theorem execH_h (w : HoistW) (ft : FTab) (hst : StaticOKH w ft) (n : Nat) (ih : ∀ k, k < n → GoodH o w ft GA GG k)
    {g : CMap} (hs : StatH P) (hc : Cons g GG GL) :
    (hl : List Handler) → (s s' : St) → (x : String) → RelH P GA GG GL s s' → okHH g P hl = true →
      ResRel (RelH P GA GG GL) (execH ⟨ft, o⟩ n s x hl) (execH ⟨hoistFT w ft, o⟩ n s' x (hoistHandlers g hl)) :=
  fun hl s s' x h hok =>
    Runs.rel_eq.mp ((sim_h w ft hst n (fun k hk => (ih k hk).2.2) hs hc).handlers hl hok n (Nat.le_refl n) s s' x h)

theorem execL_h (w : HoistW) (ft : FTab) (hst : StaticOKH w ft) (n : Nat) (ih : ∀ k, k < n → GoodH o w ft GA GG k)
    (hs : StatH P) (hc : Cons g GG GL) (l : List Stmt) (s s' : St) (h : RelH P GA GG GL s s') (hok : okHL g P l = true) :
    ResRel (RelH P GA GG GL) (execL ⟨ft, o⟩ n s l) (execL ⟨hoistFT w ft, o⟩ n s' (hoistBody g l)) :=
  Runs.rel_eq.mp ((sim_h w ft hst n (fun k hk => (ih k hk).2.2) hs hc).list l hok n (Nat.le_refl n) s s' h)

end PMV.PyCore
