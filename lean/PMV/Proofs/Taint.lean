import PMV.Model.Taint
import PMV.Proofs.Resolve
namespace PMV.Taint
open PMV.Resolve

/-- T09.4a for one lookup: no scope on Python's lookup path binds the trigger name, so it means the builtin -/
theorem taintsBy_iff (t : Tree) (fuel : Nat) (l : Lookup) :
    taintsBy t fuel l = true ↔ l.1 ∈ triggers ∧ ∀ a ∈ lookupPath t l.1 fuel l.2, (info t a).bindings.contains l.1 = false := by
  rw [taintsBy, getBinding_spec, resolveSpec, Bool.and_eq_true, Option.isNone_iff_eq_none, List.find?_eq_none]
  simp

theorem bound_trigger_does_not_taint (t : Tree) (fuel : Nat) (l : Lookup) (a : Nat)
    (ha : a ∈ lookupPath t l.1 fuel l.2) (hb : (info t a).bindings.contains l.1 = true) : taintsBy t fuel l = false :=
  Bool.eq_false_iff.mpr fun h => Bool.noConfusion (((taintsBy_iff t fuel l).mp h).2 a ha ▸ hb)

end PMV.Taint
