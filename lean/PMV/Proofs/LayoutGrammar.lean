import PMV.Proofs.LayoutProps
import PMV.Proofs.LayoutHdr
/-
  The grammar `Lay`: runs of tokens, joined by a line break to the current depth or by `;`, and clauses — a header ending in a
  colon followed by its suite, on the same line or as a block one level deeper.
-/
namespace PMV.Spec.Layout
open PMV PMV.Token PMV.Printer

/-- Under `ne` every run of tokens is non-empty: that is what `okL` adds and only `Tidy` needs; an empty run leaves no trace in
    the list, so it has to be said while the layout is built (`ne := True` with `okL`, `ne := False` without a side condition). -/
inductive Lay (ne : Prop) : Nat → List LT → Prop
  | toks (d : Nat) {xs : List Tok} : (ne → xs ≠ []) → Bal xs → Lay ne d (T xs)
  | line {d : Nat} {a b : List LT} : Lay ne d a → Lay ne d b → Lay ne d (a ++ .nl d :: b)
  | semi {d : Nat} {a b : List LT} : Lay ne d a → Lay ne d b → Lay ne d (a ++ .semi :: b)
  | block {d : Nat} {hdr : List Tok} {b : List LT} : Bal hdr → hdr.getLast? = some (.delim ":") → Lay ne (d + 1) b →
      Lay ne d (T hdr ++ .nl (d + 1) :: b)
  | inline {d : Nat} {hdr : List Tok} {b : List LT} : Bal hdr → hdr.getLast? = some (.delim ":") → Lay ne (d + 1) b →
      noNl b = true → Lay ne d (T hdr ++ b)

/-- zero or more further lines at depth `d` (handlers, `else`, `finally`, `elif`) -/
inductive More (ne : Prop) (d : Nat) : List LT → Prop
  | none : More ne d []
  | some {b : List LT} : Lay ne d b → More ne d (.nl d :: b)

section
variable {ne : Prop} {d : Nat} {a b l : List LT}

theorem Lay.more (ha : Lay ne d a) : More ne d l → Lay ne d (a ++ l)
  | .none => by simpa using ha
  | .some hb => ha.line hb

theorem More.append : More ne d a → More ne d b → More ne d (a ++ b)
  | .none, hb => hb
  | .some ha, hb => .some (ha.more hb)

theorem Lay.flat0 (h : Lay ne d l) : Flat0 l := by
  induction h with
  | toks _ _ hb => exact Flat0_T hb
  | line _ _ iha ihb => exact iha.append (ihb.cons_nl _)
  | semi _ _ iha ihb => exact iha.append ((Flat0_lay .semi rfl).append ihb)
  | block hb _ _ ih => exact (Flat0_T hb).append (ih.cons_nl _)
  | inline hb _ _ _ ih => exact (Flat0_T hb).append ih

theorem Lay.ind (h : Lay ne d l) : Ind d l := by
  induction h with
  | toks d _ _ => exact Ind_T d _
  | line _ _ iha ihb => exact iha.append ihb.cons_nl
  | semi _ _ iha ihb => exact iha.append ((Ind_semi _).append ihb)
  | block _ hc _ ih => exact Ind_block _ _ hc ih
  | inline _ _ _ hn _ => exact (Ind_T _ _).append (Ind_of_noNl _ _ hn)

theorem Lay.tidy (h : Lay True d l) : Tidy l := by
  induction h with
  | toks _ hne _ => exact Tidy_T (hne trivial)
  | line _ _ iha ihb => exact iha.sep _ ihb
  | semi _ _ iha ihb => exact iha.sep _ ihb
  | block _ hc _ ih => exact (Tidy_T (ne_nil_of_getLast? hc)).sep _ ih
  | inline _ hc _ _ ih => exact (Tidy_T (ne_nil_of_getLast? hc)).append ih

theorem More.flat0 : More ne d l → Flat0 l
  | .none => .nil
  | .some h => h.flat0.cons_nl d
theorem More.ind : More ne d l → Ind d l
  | .none => .nil d
  | .some h => h.ind.cons_nl
theorem More.tidy {X : List LT} (hX : Tidy X) : More True d l → Tidy (X ++ l)
  | .none => by simpa using hX
  | .some h => hX.sep _ h.tidy

end

section
variable {ne : Prop} (t : PrecTable) (st : StmtTable)

theorem lay_clause (d : Nat) (body : List Stmt) {hdr : List Tok} (hb : Bal hdr) (hc : hdr.getLast? = some (.delim ":"))
    (hL : body ≠ [] → ∀ d', Lay ne d' (emitBody t st d' body)) :
    Lay ne d (clause t st d hdr body) := by
  by_cases hblk : body.any isCompoundSyn = true
  · rw [clause_block hblk]; exact .block hb hc (hL (any_ne_nil hblk) _)
  · rw [clause_inline (by simpa using hblk)]
    by_cases he : body = []
    · subst he; simpa [emitBody] using Lay.toks d (fun _ => ne_nil_of_getLast? hc) hb
    · exact .inline hb hc (hL he _) (inline_noNl t st d body (by simpa using hblk))

theorem more_opt (kwd : String) (d : Nat) (body : List Stmt) (hL : body ≠ [] → ∀ d', Lay ne d' (emitBody t st d' body)) :
    More ne d (optClause t st kwd d body) := by
  unfold optClause
  split
  · exact .none
  · exact .some (lay_clause t st d body (kwColon_run .any kwd).1 (by simp) hL)

theorem more_else (d : Nat) (orelse : List Stmt) (hE : isElifList orelse = true → Lay ne d (emitElif t st d orelse))
    (hL : orelse ≠ [] → ∀ d', Lay ne d' (emitBody t st d' orelse)) : More ne d (elsePart t st d orelse) := by
  unfold elsePart
  split
  · exact .none
  · split
    · exact .some (hE ‹_›)
    · exact .some (lay_clause t st d orelse (kwColon_run .any "else").1 (by simp) hL)

theorem lay_deco (d : Nat) (decs : List Expr) {Y : List LT} (hY : Lay ne d Y) : Lay ne d (decoLines t d decs ++ Y) := by
  induction decs with
  | nil => simpa [decoLines] using hY
  | cons dec rest ih =>
    have h1 : decoLines t d (dec :: rest) ++ Y = T (.op "@" :: tExpr t dec) ++ .nl d :: (decoLines t d rest ++ Y) := by
      simp [decoLines, List.append_assoc]
    rw [h1]
    exact .line (.toks d (fun _ => by simp) (Run.op .any _ (tExpr_run .any t dec)).1) ih

theorem lay_plain (s : Stmt) (hc : isCompoundSyn s = false) (h : ne → okS t st s = true) (el : Bool) (d : Nat) :
    Lay ne d (emitS t st el d s) := by
  rw [emitS_simple t st s hc]
  exact .toks d (fun hn => ((okS_simple hc).mp (h hn)).2) (simpleToks_run .any t st s hc (.inr trivial)).1

mutual
theorem layS : (s : Stmt) → (ne → okS t st s = true) → ∀ el d, Lay ne d (emitS t st el d s)
  | .functionDef a n args body decs r tps => fun h el d => by
    simp only [okS, Bool.and_eq_true] at h
    rw [emitS_functionDef]
    exact lay_deco t d decs (lay_clause t st d body (hdrDef_run .any t a n args r tps).1 (hdrDef_colon t a n args r tps)
      (layL body (fun hn => (h hn).2)))
  | .classDef n bases kws body decs tps => fun h el d => by
    simp only [okS, Bool.and_eq_true] at h
    rw [emitS_classDef]
    exact lay_deco t d decs (lay_clause t st d body (hdrClass_run .any t n bases kws tps).1 (hdrClass_colon t n bases kws tps)
      (layL body (fun hn => (h hn).2)))
  | .for_ a tg it body orelse => fun h el d => by
    simp only [okS, Bool.and_eq_true] at h
    rw [emitS_for]
    exact (lay_clause t st d body (hdrFor_run .any t a tg it).1 (hdrFor_colon t a tg it) (layL body (fun hn => (h hn).1.2))).more
      (more_opt t st "else" d orelse (layL orelse (fun hn => (h hn).2)))
  | .while_ c body orelse => fun h el d => by
    simp only [okS, Bool.and_eq_true] at h
    rw [emitS_while]
    exact (lay_clause t st d body (kwHdr_run .any _ t c).1 (kw_colon _ _) (layL body (fun hn => (h hn).1.2))).more
      (more_opt t st "else" d orelse (layL orelse (fun hn => (h hn).2)))
  | .if_ c body orelse => fun h el d => by
    simp only [okS, Bool.and_eq_true] at h
    rw [emitS_if]
    exact (lay_clause t st d body (kwHdr_run .any _ t c).1 (kw_colon _ _) (layL body (fun hn => (h hn).1.2))).more
      (more_else t st d orelse (fun he => layElif orelse (fun hn => (h hn).2) he d) (layL orelse (fun hn => (h hn).2)))
  | .with_ a items body => fun h el d => by
    simp only [okS, Bool.and_eq_true] at h
    rw [emitS_with]
    exact lay_clause t st d body (hdrWith_run .any t a items).1 (hdrWith_colon t a items) (layL body (fun hn => (h hn).2))
  | .match_ subj cases => fun h el d => by
    simp only [okS, Bool.and_eq_true] at h
    rw [emitS]
    by_cases hc : cases.isEmpty = true
    · simp only [hc, if_true, List.append_nil]; exact .toks d (fun _ => by simp) (kwHdr_run .any _ t subj).1
    · simp only [hc, Bool.false_eq_true, if_false]
      exact .block (kwHdr_run .any _ t subj).1 (kw_colon _ _) (layC cases (fun hn => (h hn).2) (mt List.isEmpty_iff.mpr hc) (d + 1))
  | .try_ star body hs orelse fin => fun h el d => by
    simp only [okS, Bool.and_eq_true] at h
    rw [emitS_try]
    exact (lay_clause t st d body (kwColon_run .any _).1 (by simp) (layL body (fun hn => (h hn).1.1.1))).more
      (((layH star hs (fun hn => (h hn).1.1.2) d).append
        (more_opt t st "else" d orelse (layL orelse (fun hn => (h hn).1.2)))).append
        (more_opt t st "finally" d fin (layL fin (fun hn => (h hn).2))))
  | .return_ _ | .delete _ | .assign _ _ | .typeAlias _ _ _ | .augAssign _ _ _ | .annAssign _ _ _ _ | .raise_ _ _ | .assert_ _ _
  | .import_ _ | .importFrom _ _ _ | .global _ | .nonlocal _ | .expr _ | .pass | .break_ | .continue_ =>
    lay_plain t st _ rfl
theorem layL : (l : List Stmt) → (ne → okL t st l = true) → l ≠ [] → ∀ d, Lay ne d (emitBody t st d l)
  | [] => fun _ hne _ => absurd rfl hne
  | s :: ss => fun h _ d => by
    simp only [okL, Bool.and_eq_true] at h
    rw [emitBody_cons]
    have h1 := layS s (fun hn => (h hn).1) false d
    by_cases he : ss.isEmpty = true
    · simpa [he] using h1
    · simp only [he, Bool.false_eq_true, if_false]
      have h2 := layL ss (fun hn => (h hn).2) (mt List.isEmpty_iff.mpr he) d
      rcases sepNext_cases d s ss with e | e <;> rw [e]
      · exact h1.line h2
      · exact h1.semi h2
theorem layElif : (l : List Stmt) → (ne → okL t st l = true) → isElifList l = true → ∀ d, Lay ne d (emitElif t st d l)
  | [] => fun _ he _ => by simp [isElifList] at he
  | s :: _ => fun h _ d => by
    simp only [okL, Bool.and_eq_true] at h
    exact layS s (fun hn => (h hn).1) true d
theorem layH (star : Bool) : (hs : List Handler) → (ne → okH t st star hs = true) → ∀ d, More ne d (emitHandlers t st star d hs)
  | [] => fun _ _ => .none
  | .mk ty name body :: hs => fun h d => by
    simp only [okH, Bool.and_eq_true] at h
    rw [emitHandlers_cons]
    exact (More.some (lay_clause t st d body (hdrExcept_run .any t star ty name).1 (hdrExcept_colon t star ty name)
      (layL body (fun hn => (h hn).1.2)))).append (layH star hs (fun hn => (h hn).2) d)
theorem layC : (cs : List MatchCase) → (ne → okC t st cs = true) → cs ≠ [] → ∀ d, Lay ne d (emitCases t st d cs)
  | [] => fun _ hne _ => absurd rfl hne
  | .mk pat guard body :: cs => fun h _ d => by
    simp only [okC, Bool.and_eq_true] at h
    have hc := lay_clause t st d body (hdrCase_run .any t pat guard (.inr trivial)).1 (hdrCase_colon t pat guard) (layL body (fun hn => (h hn).1.2))
    rw [emitCases_cons]
    by_cases he : cs.isEmpty = true
    · simpa [he] using hc
    · simp only [he, Bool.false_eq_true, if_false]
      exact hc.line (layC cs (fun hn => (h hn).2) (mt List.isEmpty_iff.mpr he) d)
end

end

theorem tidyS (t : PrecTable) (st : StmtTable) : (s : Stmt) → okS t st s = true → ∀ el d, Tidy (emitS t st el d s) :=
  fun s h el d => (layS t st s (fun _ => h) el d).tidy
theorem tidyElif (t : PrecTable) (st : StmtTable) : (l : List Stmt) → okL t st l = true → isElifList l = true → ∀ d, Tidy (emitElif t st d l) :=
  fun l h he d => (layElif t st l (fun _ => h) he d).tidy
theorem tidyH (t : PrecTable) (st : StmtTable) (star : Bool) : (hs : List Handler) → okH t st star hs = true → ∀ d {X : List LT}, Tidy X →
    Tidy (X ++ emitHandlers t st star d hs) :=
  fun hs h d _ hX => (layH t st star hs (fun _ => h) d).tidy hX
theorem tidyC (t : PrecTable) (st : StmtTable) : (cs : List MatchCase) → okC t st cs = true → ∀ d, cs ≠ [] → Tidy (emitCases t st d cs) :=
  fun cs h d hne => (layC t st cs (fun _ => h) hne d).tidy

/-- T02.4b -/
theorem module_tidy (t : PrecTable) (st : StmtTable) (m : Module) (hok : okL t st m.body = true) (hne : m.body ≠ []) :
    Tidy (emitModule t st m) := (layL t st m.body (fun _ => hok) hne 0).tidy

theorem indS (t : PrecTable) (st : StmtTable) : (s : Stmt) → ∀ el d, Ind d (emitS t st el d s) :=
  fun s el d => (layS t st s (ne := False) False.elim el d).ind
theorem indL (t : PrecTable) (st : StmtTable) : (l : List Stmt) → ∀ d, Ind d (emitBody t st d l)
  | [], d => .nil d
  | s :: ss, d => (layL t st (s :: ss) (ne := False) False.elim (List.cons_ne_nil _ _) d).ind
theorem indElif (t : PrecTable) (st : StmtTable) : (l : List Stmt) → ∀ d, Ind d (emitElif t st d l)
  | [], d => .nil d
  | s :: _, d => indS t st s true d
theorem indH (t : PrecTable) (st : StmtTable) (star : Bool) : (hs : List Handler) → ∀ d, Ind d (emitHandlers t st star d hs) :=
  fun hs d => (layH t st star hs (ne := False) False.elim d).ind
theorem indC (t : PrecTable) (st : StmtTable) : (cs : List MatchCase) → ∀ d, Ind d (emitCases t st d cs)
  | [], d => .nil d
  | c :: cs, d => (layC t st (c :: cs) (ne := False) False.elim (List.cons_ne_nil _ _) d).ind

/-- T02.4c -/
theorem module_indent (t : PrecTable) (st : StmtTable) (m : Module) : (indRun (0, none) (emitModule t st m)).isSome = true := by
  obtain ⟨c, x, e, _⟩ := indL t st m.body 0 0 none (Nat.le_refl 0)
  unfold emitModule
  rw [e]; rfl

theorem flatS (t : PrecTable) (st : StmtTable) : (s : Stmt) → ∀ el d, Flat0 (emitS t st el d s) :=
  fun s el d => (layS t st s (ne := False) False.elim el d).flat0
theorem flatL (t : PrecTable) (st : StmtTable) : (l : List Stmt) → ∀ d, Flat0 (emitBody t st d l)
  | [], _ => .nil
  | s :: ss, d => (layL t st (s :: ss) (ne := False) False.elim (List.cons_ne_nil _ _) d).flat0
theorem flatElif (t : PrecTable) (st : StmtTable) : (l : List Stmt) → ∀ d, Flat0 (emitElif t st d l)
  | [], _ => .nil
  | s :: _, d => flatS t st s true d
theorem flatH (t : PrecTable) (st : StmtTable) (star : Bool) : (hs : List Handler) → ∀ d, Flat0 (emitHandlers t st star d hs) :=
  fun hs d => (layH t st star hs (ne := False) False.elim d).flat0
theorem flatC (t : PrecTable) (st : StmtTable) : (cs : List MatchCase) → ∀ d, Flat0 (emitCases t st d cs)
  | [], _ => .nil
  | c :: cs, d => (layC t st (c :: cs) (ne := False) False.elim (List.cons_ne_nil _ _) d).flat0

/-- T02.4d -/
theorem module_brackets (t : PrecTable) (st : StmtTable) (m : Module) : depthL 0 (emitModule t st m) = some 0 :=
  flatL t st m.body 0

end PMV.Spec.Layout
