import PMV.Model.Exports
/-
  `find__all__` computes exactly the exported names: a string is in the result iff some simple statement that runs
  at module level assigns a list display containing it to `__all__`.
-/
namespace PMV.Exports
open PMV

theorem allS_simple (st : Stmt) (h : isCompound st = false) : allS st = ownNames st := by
  cases st with
  | functionDef | classDef | for_ | while_ | if_ | with_ | match_ | try_ => cases h
  | _ => rfl

theorem ownNames_compound (st : Stmt) (h : isCompound st = true) : ownNames st = [] := by
  cases st with
  | functionDef | classDef | for_ | while_ | if_ | with_ | match_ | try_ => rfl
  | _ => cases h

/-- `s` is an element of a list display that a simple statement satisfying `R` assigns to `__all__`: `Exported m` is
    `From (ReachL m.body)`, and the `_sound` theorems conclude `From (Reach… _)` written out -/
def From (R : Stmt → Prop) (s : String) : Prop :=
  ∃ st' v, R st' ∧ isCompound st' = false ∧ allValue st' = some v ∧ s ∈ listStrings v

theorem From.mono {R R' : Stmt → Prop} {s : String} (h : From R s) (hR : ∀ st', R st' → R' st') : From R' s :=
  let ⟨st', v, hr, h'⟩ := h; ⟨st', v, hR st' hr, h'⟩

theorem simple_sound (s : String) (st : Stmt) (hc : isCompound st = false) (h : s ∈ allS st) : From (ReachS st) s := by
  rw [allS_simple st hc] at h
  unfold ownNames at h
  cases hv : allValue st with
  | none => simp [hv] at h
  | some v => rw [hv] at h; exact ⟨st, v, .here st, hc, hv, h⟩

mutual
theorem allS_sound (s : String) : (st : Stmt) → s ∈ allS st →
    ∃ st' v, ReachS st st' ∧ isCompound st' = false ∧ allValue st' = some v ∧ s ∈ listStrings v
  | .functionDef .. | .classDef .. => fun h => nomatch h
  | .for_ _ _ _ body orelse => fun h => (List.mem_append.mp h).elim
    (fun h => From.mono (allL_sound s body h) fun _ => .forBody) (fun h => From.mono (allL_sound s orelse h) fun _ => .forElse)
  | .while_ _ body orelse => fun h => (List.mem_append.mp h).elim
    (fun h => From.mono (allL_sound s body h) fun _ => .whileBody) (fun h => From.mono (allL_sound s orelse h) fun _ => .whileElse)
  | .if_ _ body orelse => fun h => (List.mem_append.mp h).elim
    (fun h => From.mono (allL_sound s body h) fun _ => .ifBody) (fun h => From.mono (allL_sound s orelse h) fun _ => .ifElse)
  | .with_ _ _ body => fun h => From.mono (allL_sound s body h) fun _ => .withBody
  | .match_ _ cases => fun h => From.mono (allC_sound s cases h) fun _ => .matchCase
  | .try_ _ body hs orelse fin => fun h => by
    have h : s ∈ allL body ++ allH hs ++ allL orelse ++ allL fin := h
    simp only [List.mem_append] at h
    rcases h with ((h | h) | h) | h
    · exact From.mono (allL_sound s body h) fun _ => .tryBody
    · exact From.mono (allH_sound s hs h) fun _ => .tryHandler
    · exact From.mono (allL_sound s orelse h) fun _ => .tryElse
    · exact From.mono (allL_sound s fin h) fun _ => .tryFinally
  | .return_ _ | .delete _ | .assign .. | .typeAlias .. | .augAssign .. | .annAssign .. | .raise_ .. | .assert_ .. | .import_ _
  | .importFrom .. | .global _ | .nonlocal _ | .expr _ | .pass | .break_ | .continue_ => simple_sound s _ rfl
theorem allL_sound (s : String) : (l : List Stmt) → s ∈ allL l →
    ∃ st' v, ReachL l st' ∧ isCompound st' = false ∧ allValue st' = some v ∧ s ∈ listStrings v
  | [] => fun h => nomatch h
  | st :: rest => fun h => (List.mem_append.mp h).elim
    (fun h => From.mono (allS_sound s st h) fun _ => .head) (fun h => From.mono (allL_sound s rest h) fun _ => .tail)
theorem allH_sound (s : String) : (hs : List Handler) → s ∈ allH hs →
    ∃ st' v, ReachH hs st' ∧ isCompound st' = false ∧ allValue st' = some v ∧ s ∈ listStrings v
  | [] => fun h => nomatch h
  | .mk _ _ body :: rest => fun h => (List.mem_append.mp h).elim
    (fun h => From.mono (allL_sound s body h) fun _ => .head) (fun h => From.mono (allH_sound s rest h) fun _ => .tail)
theorem allC_sound (s : String) : (cs : List MatchCase) → s ∈ allC cs →
    ∃ st' v, ReachC cs st' ∧ isCompound st' = false ∧ allValue st' = some v ∧ s ∈ listStrings v
  | [] => fun h => nomatch h
  | .mk _ _ body :: rest => fun h => (List.mem_append.mp h).elim
    (fun h => From.mono (allL_sound s body h) fun _ => .head) (fun h => From.mono (allC_sound s rest h) fun _ => .tail)
end

mutual
theorem allS_complete (s : String) (st' : Stmt) (v : Expr) (hc : isCompound st' = false) (hv : allValue st' = some v)
    (hs : s ∈ listStrings v) : {st : Stmt} → ReachS st st' → s ∈ allS st
  | _, .here _ => by rw [allS_simple st' hc]; unfold ownNames; rw [hv]; exact hs
  | _, .forBody h | _, .whileBody h | _, .ifBody h => List.mem_append_left _ (allL_complete s st' v hc hv hs h)
  | _, .forElse h | _, .whileElse h | _, .ifElse h => List.mem_append_right _ (allL_complete s st' v hc hv hs h)
  | _, .withBody h => allL_complete s st' v hc hv hs h
  | _, .matchCase h => allC_complete s st' v hc hv hs h
  | _, .tryBody h => List.mem_append_left _ (List.mem_append_left _ (List.mem_append_left _ (allL_complete s st' v hc hv hs h)))
  | _, .tryHandler h => List.mem_append_left _ (List.mem_append_left _ (List.mem_append_right _ (allH_complete s st' v hc hv hs h)))
  | _, .tryElse h => List.mem_append_left _ (List.mem_append_right _ (allL_complete s st' v hc hv hs h))
  | _, .tryFinally h => List.mem_append_right _ (allL_complete s st' v hc hv hs h)
-- the derivation only says which block to enter: recursion on the derivation itself is far dearer to set up
termination_by structural st => st
theorem allL_complete (s : String) (st' : Stmt) (v : Expr) (hc : isCompound st' = false) (hv : allValue st' = some v)
    (hs : s ∈ listStrings v) : {l : List Stmt} → ReachL l st' → s ∈ allL l
  | _, .head h => List.mem_append_left _ (allS_complete s st' v hc hv hs h)
  | _, .tail h => List.mem_append_right _ (allL_complete s st' v hc hv hs h)
theorem allH_complete (s : String) (st' : Stmt) (v : Expr) (hc : isCompound st' = false) (hv : allValue st' = some v)
    (hs : s ∈ listStrings v) : {l : List Handler} → ReachH l st' → s ∈ allH l
  | _, .head h => List.mem_append_left _ (allL_complete s st' v hc hv hs h)
  | .mk .. :: _, .tail h => List.mem_append_right _ (allH_complete s st' v hc hv hs h)
theorem allC_complete (s : String) (st' : Stmt) (v : Expr) (hc : isCompound st' = false) (hv : allValue st' = some v)
    (hs : s ∈ listStrings v) : {l : List MatchCase} → ReachC l st' → s ∈ allC l
  | _, .head h => List.mem_append_left _ (allL_complete s st' v hc hv hs h)
  | .mk .. :: _, .tail h => List.mem_append_right _ (allC_complete s st' v hc hv hs h)
end

end PMV.Exports
