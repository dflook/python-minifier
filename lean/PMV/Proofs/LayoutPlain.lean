import PMV.Proofs.LayoutHdr
namespace PMV.Spec.Layout
open PMV PMV.Token PMV.Printer

/-- only an expression statement and an assignment without targets hold no token of their own -/
theorem simpleToks_ne (t : PrecTable) (st : StmtTable) (s : Stmt) (hc : isCompoundSyn s = false) (h : simpleOK t s = true) :
    simpleToks t st s ≠ [] := by
  have key {xs : List Tok} (e : stmtToks t st s = xs ++ [.endStmt]) (hx : xs ≠ []) : simpleToks t st s ≠ [] := by
    rwa [simpleToks_of_eq e]
  cases s with
  | functionDef | classDef | for_ | while_ | if_ | with_ | match_ | try_ => cases hc
  | assign ts v =>
    cases ts with
    | nil => exact key rfl (by simpa [simpleOK] using h)
    | cons a as => exact key rfl (by simp [List.flatMap_cons])
  | expr v => exact key rfl (by simpa [simpleOK] using h)
  | augAssign | annAssign => exact key rfl (by simp)
  | pass | break_ | continue_ => exact key (xs := [_]) rfl nofun
  | _ => exact key rfl nofun

theorem simple_okS (t : PrecTable) (st : StmtTable) (s : Stmt) (hc : isCompoundSyn s = false) (h : simpleOK t s = true) :
    okS t st s = true :=
  (okS_simple hc).mpr ⟨(simpleToks_run .real t st s hc (.inl h)).nlay, simpleToks_ne t st s hc h⟩

theorem decs_nlay (t : PrecTable) (decs : List Expr) : decs.all (fun dec => nlay (tExpr t dec)) = true :=
  List.all_eq_true.mpr fun _ _ => tExpr_nlay t _

mutual
theorem okS_of_plain (t : PrecTable) (st : StmtTable) : (s : Stmt) → plainS t s = true → okS t st s = true
  | .functionDef a n args body decs r tps => fun h => by
    simp only [plainS] at h
    simp [okS, decs_nlay, (hdrDef_run .real t a n args r tps).nlay, okL_of_plain t st body h]
  | .classDef n bases kws body decs tps => fun h => by
    simp only [plainS] at h
    simp [okS, decs_nlay, (hdrClass_run .real t n bases kws tps).nlay, okL_of_plain t st body h]
  | .for_ a tg it body orelse => fun h => by
    simp only [plainS, Bool.and_eq_true] at h
    simp [okS, (hdrFor_run .real t a tg it).nlay, okL_of_plain t st body h.1, okL_of_plain t st orelse h.2]
  | .while_ c body orelse => fun h => by
    simp only [plainS, Bool.and_eq_true] at h
    simp [okS, tExpr_nlay, okL_of_plain t st body h.1, okL_of_plain t st orelse h.2]
  | .if_ c body orelse => fun h => by
    simp only [plainS, Bool.and_eq_true] at h
    simp [okS, tExpr_nlay, okL_of_plain t st body h.1, okL_of_plain t st orelse h.2]
  | .with_ a items body => fun h => by
    simp only [plainS] at h
    simp [okS, (hdrWith_run .real t a items).nlay, okL_of_plain t st body h]
  | .match_ subj cases => fun h => by
    simp only [plainS] at h
    simp [okS, tExpr_nlay, okC_of_plain t st cases h]
  | .try_ star body hs orelse fin => fun h => by
    simp only [plainS, Bool.and_eq_true] at h
    simp [okS, okL_of_plain t st body h.1.1.1, okH_of_plain t st star hs h.1.1.2, okL_of_plain t st orelse h.1.2, okL_of_plain t st fin h.2]
  | .return_ _ | .delete _ | .assign _ _ | .typeAlias _ _ _ | .augAssign _ _ _ | .annAssign _ _ _ _ | .raise_ _ _ | .assert_ _ _
  | .import_ _ | .importFrom _ _ _ | .global _ | .nonlocal _ | .expr _ | .pass | .break_ | .continue_ =>
    fun h => simple_okS t st _ rfl h
theorem okL_of_plain (t : PrecTable) (st : StmtTable) : (l : List Stmt) → plainL t l = true → okL t st l = true
  | [] => fun _ => rfl
  | s :: ss => fun h => by
    simp only [plainL, Bool.and_eq_true] at h
    simp [okL, okS_of_plain t st s h.1, okL_of_plain t st ss h.2]
theorem okH_of_plain (t : PrecTable) (st : StmtTable) (star : Bool) : (hs : List Handler) → plainH t hs = true → okH t st star hs = true
  | [] => fun _ => rfl
  | .mk ty name body :: hs => fun h => by
    simp only [plainH, Bool.and_eq_true] at h
    simp [okH, (hdrExcept_run .real t star ty name).nlay, okL_of_plain t st body h.1, okH_of_plain t st star hs h.2]
theorem okC_of_plain (t : PrecTable) (st : StmtTable) : (cs : List MatchCase) → plainC t cs = true → okC t st cs = true
  | [] => fun _ => rfl
  | .mk pat guard body :: cs => fun h => by
    simp only [plainC, Bool.and_eq_true] at h
    simp [okC, (hdrCase_run .real t pat guard (.inl h.1.1)).nlay, okL_of_plain t st body h.1.2, okC_of_plain t st cs h.2]
end

end PMV.Spec.Layout
