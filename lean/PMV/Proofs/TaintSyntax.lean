import PMV.Model.TaintSyntax
/- T09.5a: the import part of taint detection sees an import at any depth (`subS`: every statement below). -/
namespace PMV.TaintSyntax
open PMV

theorem any_append_of {α} {p : α → Bool} {a b : Bool} {l l' : List α} (ha : a = l.any p) (hb : b = l'.any p) :
    (a || b) = (l ++ l').any p := ha ▸ hb ▸ List.any_append.symm

mutual
theorem taintS_spec : (st : Stmt) → taintS st = (subS st).any stmtTaints
  -- a compound statement, the head of its `subS`, taints nothing itself, and `false || b` is `b` by definition
  | .for_ _ _ _ body orelse | .while_ _ body orelse | .if_ _ body orelse => any_append_of (taintL_spec body) (taintL_spec orelse)
  | .functionDef _ _ _ body _ _ _ | .classDef _ _ _ body _ _ | .with_ _ _ body => taintL_spec body
  | .match_ _ cases => taintC_spec cases
  | .try_ _ body hs orelse fin =>
    any_append_of (any_append_of (any_append_of (taintL_spec body) (taintH_spec hs)) (taintL_spec orelse)) (taintL_spec fin)
  | .import_ _ | .importFrom .. => (Bool.or_false _).symm
  | .return_ _ | .delete _ | .assign .. | .typeAlias .. | .augAssign .. | .annAssign .. | .raise_ .. | .assert_ .. | .global _
  | .nonlocal _ | .expr _ | .pass | .break_ | .continue_ => rfl
theorem taintL_spec : (ss : List Stmt) → taintL ss = (subL ss).any stmtTaints
  | [] => rfl
  | s :: ss => any_append_of (taintS_spec s) (taintL_spec ss)
theorem taintH_spec : (hs : List Handler) → taintH hs = (subH hs).any stmtTaints
  | [] => rfl
  | .mk _ _ body :: hs => any_append_of (taintL_spec body) (taintH_spec hs)
theorem taintC_spec : (cs : List MatchCase) → taintC cs = (subC cs).any stmtTaints
  | [] => rfl
  | .mk _ _ body :: cs => any_append_of (taintL_spec body) (taintC_spec cs)
end

end PMV.TaintSyntax
