import PMV.Model.Preserve
namespace PMV.Preserve

theorem splitComma_ne_nil (s : List Nat) : splitComma s ≠ [] := by
  cases s with
  | nil => exact List.cons_ne_nil _ _
  | cons c cs =>
    refine iteInduction (motive := (· ≠ [])) (fun _ => List.cons_ne_nil _ _) fun _ => ?_
    cases splitComma cs <;> exact List.cons_ne_nil _ _

theorem splitComma_nocomma (w : List Nat) (h : 44 ∉ w) : splitComma w = [w] := by
  induction w with
  | nil => rfl
  | cons c cs ih =>
    rw [List.mem_cons, not_or] at h
    simp [splitComma, Ne.symm h.1, ih h.2]

theorem splitComma_append (w rest : List Nat) (h : 44 ∉ w) :
    splitComma (w ++ 44 :: rest) = w :: splitComma rest := by
  induction w with
  | nil => simp [splitComma]
  | cons c cs ih =>
    rw [List.mem_cons, not_or] at h
    simp [splitComma, Ne.symm h.1, ih h.2]

theorem split_join : ∀ (names : List (List Nat)), names ≠ [] → (∀ n ∈ names, 44 ∉ n) →
    splitComma (joinComma names) = names
  | [] => fun h _ => absurd rfl h
  | [w] => fun _ hn => splitComma_nocomma w (hn w List.mem_cons_self)
  | w :: w' :: ws => fun _ hn =>
    (splitComma_append w _ (hn w List.mem_cons_self)).trans
      (congrArg (w :: ·) (split_join (w' :: ws) (List.cons_ne_nil _ _) fun n h => hn n (List.mem_cons_of_mem _ h)))

theorem lstrip_id (ws : Nat → Bool) (s : List Nat) (h : ∀ c, s.head? = some c → ws c = false) :
    lstrip ws s = s := by
  cases s with
  | nil => rfl
  | cons c cs => simp [lstrip, List.dropWhile, h c rfl]

theorem strip_id (ws : Nat → Bool) (s : List Nat)
    (h1 : ∀ c, s.head? = some c → ws c = false) (h2 : ∀ c, s.getLast? = some c → ws c = false) :
    strip ws s = s := by
  unfold strip
  rw [lstrip_id ws s h1, lstrip_id ws s.reverse (by simpa using h2)]
  simp

def Clean (ws : Nat → Bool) (n : List Nat) : Prop :=
  n ≠ [] ∧ 44 ∉ n ∧ (∀ c, n.head? = some c → ws c = false) ∧ (∀ c, n.getLast? = some c → ws c = false)

end PMV.Preserve
