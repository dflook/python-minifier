import PMV.Model.CliCheck
/-
  C13: `parseBools` reads argv only through which option strings are present (`parseBools_eq`), so every forwarded keyword is
  a Boolean expression over flag presence (`kwExp_eval`); `equivB` compares two such expressions on the assignments of the
  variables that occur, which is enough (`equivB_sound`).
-/
namespace PMV.Cli
open BExp

theorem BExp.eval_congr (e : BExp) (P Q : String → Bool) (h : ∀ v ∈ e.vars, P v = Q v) :
    e.eval P = e.eval Q := by
  induction e with
  | lit b => rfl
  | present f => exact h f List.mem_cons_self
  | ite c a b ihc iha ihb =>
    simp only [BExp.eval]
    rw [ihc, iha, ihb] <;> intro v hv <;> apply h <;> simp [BExp.vars, hv]

theorem filter_mem_subsets {α} (p : α → Bool) : (l : List α) → l.filter p ∈ subsets l
  | [] => by simp [subsets]
  | x :: xs => by
    simp only [subsets, List.filter_cons]
    split
    · exact List.mem_append_left _ (List.mem_map_of_mem (filter_mem_subsets p xs))
    · exact List.mem_append_right _ (filter_mem_subsets p xs)

theorem equivB_sound (e1 e2 : BExp) (h : equivB e1 e2 = true) (P : String → Bool) :
    e1.eval P = e2.eval P := by
  -- the assignment `Q` that makes true exactly the occurring variables on which `P` holds is one of those enumerated
  let Q (v : String) : Bool := ((e1.vars ++ e2.vars).filter P).contains v
  have hc : ∀ v ∈ e1.vars ++ e2.vars, P v = Q v := fun v hv => by
    rw [Bool.eq_iff_iff, List.contains_iff_mem, List.mem_filter, and_iff_right hv]
  calc e1.eval P = e1.eval Q := BExp.eval_congr e1 P Q fun v hv => hc v (List.mem_append_left _ hv)
    _ = e2.eval Q := eq_of_beq (List.all_eq_true.mp h _ (filter_mem_subsets P (e1.vars ++ e2.vars)))
    _ = e2.eval P := (BExp.eval_congr e2 P Q fun v hv => hc v (List.mem_append_right _ hv)).symm

def hit (t : Table) (d : String) (argv : List String) : Bool :=
  t.flags.any fun f => f.dest == d && argv.contains f.name

theorem any_or {α} (p q : α → Bool) : ∀ (l : List α), (l.any fun x => p x || q x) = (l.any p || l.any q)
  | [] => rfl
  | x :: xs => by simp only [List.any_cons, any_or p q xs]; cases p x <;> cases q x <;> simp

theorem hit_cons (t : Table) (d a : String) (as : List String) :
    hit t d (a :: as) = ((t.flags.any fun f => f.dest == d && f.name == a) || hit t d as) := by
  simp only [hit, List.contains_cons, Bool.and_or_distrib_left, any_or]

theorem eqExp_eval (e : BExp) (v : Bool) (P : String → Bool) : (eqExp e v).eval P = (e.eval P == v) := by
  cases v <;> simp [eqExp, BExp.not, BExp.eval]

theorem destExpAux_eval (d : String) (dflt c : Bool) (P : String → Bool) :
    ∀ (l : List BoolFlag), (∀ f ∈ l, f.dest = d → f.const = c) →
      (destExpAux d dflt l).eval P = if (l.any fun f => f.dest == d && P f.name) then c else dflt
  | [] => fun _ => by simp [destExpAux, BExp.eval]
  | f :: fs => fun h => by
    have ih := destExpAux_eval d dflt c P fs fun g hg => h g (List.mem_cons_of_mem _ hg)
    rw [destExpAux, List.any_cons]
    cases hd : f.dest == d
    · exact ih
    · rw [if_pos rfl, BExp.eval, BExp.eval, BExp.eval, ih, Bool.true_and, h f List.mem_cons_self (eq_of_beq hd)]
      cases P f.name <;> rfl

section
variable {t : Table} (hc : constsConsistent t = true)
include hc

theorem const_eq_constOf {f : BoolFlag} (hf : f ∈ t.flags) : f.const = constOf t f.dest := by
  have := List.all_eq_true.mp hc f hf
  simp only [Bool.and_eq_true, beq_iff_eq] at this
  exact this.1

variable (hu : namesUnique t = true)
include hu

theorem step_apply (ns : Ns) (a d : String) :
    step t ns a d = if (t.flags.any fun f => f.dest == d && f.name == a) then constOf t d else ns d := by
  unfold step
  by_cases h : (t.flags.any fun f => f.dest == d && f.name == a) = true
  · -- a flag `g` named `a` writes `d`, and looking `a` up finds `g`: names are unique
    obtain ⟨g, hg, hgd⟩ := List.any_eq_true.mp h
    rw [Bool.and_eq_true, beq_iff_eq, beq_iff_eq] at hgd
    obtain ⟨rfl, rfl⟩ := hgd
    rw [if_pos h, eq_of_beq (List.all_eq_true.mp hu g hg)]
    simpa using const_eq_constOf hc hg
  · -- the flag that looking `a` up finds, if any, does not write `d`
    rw [if_neg h]
    cases hf : t.flags.find? (fun g => g.name == a) with
    | none => rfl
    | some f =>
      have hd : d ≠ f.dest := fun hd =>
        h (List.any_eq_true.mpr ⟨f, List.mem_of_find?_eq_some hf, by simpa [hd] using List.find?_some hf⟩)
      simp [hd]

theorem foldl_step (d : String) : ∀ (argv : List String) (ns : Ns),
    argv.foldl (step t) ns d = if hit t d argv then constOf t d else ns d
  | [], ns => by simp [hit]
  | a :: as, ns => by
    rw [List.foldl_cons, foldl_step d as, step_apply hc hu, hit_cons]
    cases hit t d as <;> cases (t.flags.any fun f => f.dest == d && f.name == a) <;> rfl

variable (argv : List String)

theorem parseBools_eq (d : String) : parseBools t argv d = (destExp t d).eval (fun f => argv.contains f) := by
  unfold parseBools destExp
  rw [foldl_step hc hu d, destExpAux_eval d _ (constOf t d) _ t.flags fun f hf hd => hd ▸ const_eq_constOf hc hf]
  rfl

theorem srcExp_eval (s : Src) : (srcExp t s).eval (fun f => argv.contains f) = evalSrc (parseBools t argv) s := by
  cases s with
  | dest d => simp [srcExp, evalSrc, parseBools_eq hc hu]
  | const b => simp [srcExp, evalSrc, BExp.eval]

theorem kwExpAux_eval (k : String) : ∀ (os : List Override) (base : BExp),
    (kwExpAux t k os base).eval (fun f => argv.contains f) =
      evalKwAux (parseBools t argv) k os (base.eval (fun f => argv.contains f))
  | [], base => rfl
  | o :: os, base => by
    rw [kwExpAux, evalKwAux]
    cases o.kw == k
    · exact kwExpAux_eval k os base
    · rw [if_pos rfl, if_pos rfl, BExp.eval, eqExp_eval, parseBools_eq hc hu, srcExp_eval hc hu, kwExpAux_eval k os base]

theorem kwExp_eval (k : String) :
    (kwExp t k).map (fun e => e.eval (fun f => argv.contains f)) = evalKw t (parseBools t argv) k := by
  unfold kwExp evalKw
  cases t.base.lookup k with
  | none => rfl
  | some s =>
    simp only [Option.map_some]
    rw [kwExpAux_eval hc hu, srcExp_eval hc hu]

end

theorem flags_forwarded_of_tableOK (t : Table) (h : TableOK t = true) (argv : List String) :
    ∀ k e, (k, e) ∈ Spec.Docs.docKw →
      evalKw t (parseBools t argv) k = some (e.eval (fun f => argv.contains f)) := by
  intro k e hke
  simp only [TableOK, Bool.and_eq_true] at h
  obtain ⟨⟨⟨⟨hu, hc⟩, _⟩, hkw⟩, _⟩ := h
  have := List.all_eq_true.mp hkw (k, e) hke
  rw [← kwExp_eval hc hu]
  cases hk : kwExp t k with
  | none => simp [hk] at this
  | some e' => exact congrArg some (equivB_sound e' e (by simpa [hk] using this) _)

end PMV.Cli
