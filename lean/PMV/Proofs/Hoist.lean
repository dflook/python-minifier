import PMV.Model.Hoist
namespace PMV.Hoist

theorem commonPath_prefix : ∀ (a b : List Nat), commonPath a b <+: a ∧ commonPath a b <+: b
  | [], _ => ⟨List.nil_prefix, List.nil_prefix⟩
  | _ :: _, [] => ⟨List.nil_prefix, List.nil_prefix⟩
  | x :: xs, y :: ys => iteInduction (motive := fun c => c <+: x :: xs ∧ c <+: y :: ys)
    (fun h => by
      obtain rfl : x = y := beq_iff_eq.mp h
      exact (commonPath_prefix xs ys).imp (List.prefix_cons_inj x).mpr (List.prefix_cons_inj x).mpr)
    fun _ => ⟨List.nil_prefix, List.nil_prefix⟩

theorem commonPath_head {a b : List Nat} (hne : a ≠ []) (h : b.head? = a.head?) :
    commonPath a b ≠ [] ∧ (commonPath a b).head? = a.head? := by
  match a, b with
  | [], _ => exact absurd rfl hne
  | _ :: _, [] => cases h
  | x :: as, y :: bs =>
    cases h
    rw [show commonPath (x :: as) (x :: bs) = x :: commonPath as bs from if_pos (beq_iff_eq.mpr rfl)]
    exact ⟨List.cons_ne_nil _ _, rfl⟩

/-- T06.3a on the model: paths that start with the same namespace have the accumulated path as a common prefix -/
theorem placePath_prefix : ∀ (ps : List (List Nat)) (p0 : List Nat), p0 ≠ [] → (∀ q ∈ ps, q.head? = p0.head?) →
    ∀ p ∈ p0 :: ps, placePath (p0 :: ps) <+: p
  | [], _ => fun _ _ => List.forall_mem_cons.mpr ⟨List.prefix_refl _, fun _ h => nomatch h⟩
  | q :: ps, p0 => fun hne hh => by
    have e : placePath (p0 :: q :: ps) = placePath (commonPath p0 q :: ps) :=
      congrArg (List.foldl _ · ps) (if_neg (mt List.isEmpty_iff.mp hne))
    -- the common path with `q` is non-empty because both start with the same (module) namespace
    obtain ⟨hcne, hch⟩ := commonPath_head hne (hh q List.mem_cons_self)
    obtain ⟨ih0, ih⟩ := List.forall_mem_cons.mp
      (placePath_prefix ps (commonPath p0 q) hcne fun r hr => (hh r (List.mem_cons_of_mem _ hr)).trans hch.symm)
    rw [e]
    exact List.forall_mem_cons.mpr ⟨ih0.trans (commonPath_prefix _ _).1,
      List.forall_mem_cons.mpr ⟨ih0.trans (commonPath_prefix _ _).2, ih⟩⟩

theorem insertStmt_eq {α} (leading : α → Bool) (new : α) (s : List α) :
    insertStmt leading new s = s.takeWhile leading ++ new :: s.dropWhile leading := by
  induction s with
  | nil => rfl
  | cons x xs ih =>
    show (if leading x then x :: insertStmt leading new xs else new :: x :: xs) = _
    rw [List.takeWhile_cons, List.dropWhile_cons, ih]
    cases leading x <;> rfl

end PMV.Hoist
