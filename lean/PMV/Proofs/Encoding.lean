import PMV.Model.Encoding
namespace PMV.Encoding

theorem lowerC_idem (c : Nat) : lowerC (lowerC c) = lowerC c := by
  -- a lowered character is not an upper-case letter
  have h : ¬(65 ≤ lowerC c ∧ lowerC c ≤ 90) := by unfold lowerC; split <;> omega
  exact if_neg h

theorem norm_lower (name : List Nat) : norm (name.map lowerC) = norm name := by
  unfold norm
  rw [← List.map_take, List.map_map (g := lowerC), show lowerC ∘ lowerC = lowerC from funext lowerC_idem]

theorem norm_take (name : List Nat) : norm (name.take 12) = norm name := by
  unfold norm; rw [List.take_take]; simp

/-- only the class matters downstream -/
def cls : Enc → Nat
  | .utf8 => 0
  | .latin1 => 1
  | .other _ => 2

theorem cls_eq (a b : List Nat) (h : norm a = norm b) : cls (normalName a) = cls (normalName b) := by
  simp only [normalName, apply_ite cls, h]
  rfl

theorem dashC_lowerC_ne (d : Nat) (h1 : d ≠ 45) (h2 : d ≠ 95) : dashC (lowerC d) ≠ 45 := by
  have hl : lowerC d ≠ 45 ∧ lowerC d ≠ 95 :=
    iteInduction (motive := fun x => x ≠ 45 ∧ x ≠ 95) (fun h => by omega) fun _ => ⟨h1, h2⟩
  rw [show dashC (lowerC d) = lowerC d from if_neg hl.2]
  exact hl.1

theorem norm_iso_cons (d : Nat) (rest : List Nat) :
    norm (iso88591 ++ d :: rest) = iso88591 ++ dashC (lowerC d) :: ((rest.take 1).map lowerC).map dashC :=
  rfl

end PMV.Encoding
