import PMV.Proofs.LayoutSpec
namespace PMV.Spec.Layout
open PMV PMV.Token PMV.Printer

structure Sim (st : St) (ls : LSt) : Prop where
  code : st.code = revCode ls.acc
  indent : st.indent = ls.indent
  prev : st.prev = ls.prev

def LTok.ok : LTok → Prop
  | .t _ tok => textOK tok = true ∧ Spec.Lex.isLayout tok = false
  | _ => True

def AccOK (acc : List LTok) : Prop := ∀ x ∈ acc, x.ok

theorem AccOK.tail {x : LTok} {xs : List LTok} (h : AccOK (x :: xs)) : AccOK xs :=
  fun y hy => h y (List.mem_cons_of_mem _ hy)

theorem AccOK.cons {x : LTok} {xs : List LTok} (hx : x.ok) (h : AccOK xs) : AccOK (x :: xs) :=
  List.forall_mem_cons.mpr ⟨hx, h⟩

/-- what `textOK` is for: the text of a real token ends with a character that `newline` does not strip -/
theorem AccOK.head_t {sp : Bool} {tok : Tok} {xs : List LTok} (h : AccOK (.t sp tok :: xs)) :
    ∃ c cs, (LTok.t sp tok).revChars = c :: cs ∧ stripChar c = false := by
  obtain ⟨ht, hl⟩ : textOK tok = true ∧ Spec.Lex.isLayout tok = false := h _ List.mem_cons_self
  simp only [textOK, hl, Bool.false_or] at ht
  simp only [LTok.revChars]
  cases hr : (Spec.Lex.text tok).toList.reverse with
  | nil => rw [hr] at ht; cases ht
  | cons c cs => rw [hr] at ht; exact ⟨c, _, rfl, by simpa using ht⟩

theorem revCode_isEmpty {acc : List LTok} (h : AccOK acc) : (revCode acc).isEmpty = acc.isEmpty := by
  cases acc with
  | nil => rfl
  | cons x xs =>
    cases x with
    | t sp tok => obtain ⟨c, cs, e, _⟩ := h.head_t; simp [revCode, e]
    | nl d => simp [revCode, LTok.revChars]
    | semi => simp [revCode, LTok.revChars]

theorem dropWhile_revCode (acc : List LTok) (h : AccOK acc) :
    (revCode acc).dropWhile stripChar = revCode (acc.dropWhile LTok.isLay) := by
  induction acc with
  | nil => rfl
  | cons x xs ih =>
    cases x with
    | t sp tok =>
      obtain ⟨c, cs, e, hc⟩ := h.head_t
      simp [revCode, e, LTok.isLay, hc]
    | nl d =>
      have htabs : ∀ a ∈ List.replicate d '\t', stripChar a = true := fun a ha => by rw [List.eq_of_mem_replicate ha]; rfl
      simp only [revCode, LTok.revChars, List.dropWhile_cons, LTok.isLay, if_true]
      rw [← ih h.tail, List.append_assoc, List.dropWhile_append_of_pos htabs]
      simp [stripChar]
    | semi =>
      simp only [revCode, LTok.revChars, List.dropWhile_cons, LTok.isLay, if_true]
      rw [← ih h.tail]
      simp [stripChar]

/-- a real token is pushed, in both machines after the same decision on the space and with the same class -/
theorem step_real (sp : Spacing) {st : St} {ls : LSt} (hp : st.prev = ls.prev) (tok : Tok) (hl : Spec.Lex.isLayout tok = false) :
    ∃ c ty, step sp st tok = push (spaceIf st c) (Spec.Lex.text tok) ty ∧ lstep sp ls tok = lpush ls c tok ty := by
  obtain ⟨code, indent, prev⟩ := st
  subst hp
  cases tok with
  | newline | indentInc | indentDec | endStmt => cases hl
  | delim | op => exact ⟨false, _, rfl, rfl⟩
  | _ => exact ⟨_, _, rfl, rfl⟩

section
variable {st : St} {ls : LSt} (h : Sim st ls) (hok : AccOK ls.acc)
include h hok

theorem sim_newline :
    Sim (doNewline st) (lnewline ls) ∧ AccOK (lnewline ls).acc := by
  unfold doNewline lnewline
  rw [h.code, revCode_isEmpty hok]
  by_cases hemp : ls.acc.isEmpty = true
  · simp only [hemp, if_true]; exact ⟨h, hok⟩
  · simp only [hemp, Bool.false_eq_true, if_false]
    refine ⟨⟨?_, h.indent, rfl⟩, AccOK.cons trivial fun x hx => hok x ((List.dropWhile_suffix _).subset hx)⟩
    simp only [revCode, LTok.revChars]
    rw [dropWhile_revCode _ hok, h.indent]
    simp

theorem sim_push (c : Bool) (tok : Tok) (ty : TokType)
    (ht : textOK tok = true) (hl : Spec.Lex.isLayout tok = false) :
    Sim (push (spaceIf st c) (Spec.Lex.text tok) ty) (lpush ls c tok ty) ∧ AccOK (lpush ls c tok ty).acc := by
  refine ⟨⟨?_, ?_, rfl⟩, hok.cons ⟨ht, hl⟩⟩
  · unfold push spaceIf lpush
    cases c <;> simp [revCode, LTok.revChars, h.code]
  · unfold push spaceIf lpush
    cases c <;> simp [h.indent]

/-- `end_statement` looks at the last character of the code, the layout machine at its last token -/
theorem semi_head_iff :
    (∃ tl, st.code = ';' :: tl) ↔ (∃ tl, ls.acc = .semi :: tl) := by
  rw [h.code]
  cases hacc : ls.acc with
  | nil => simp [revCode]
  | cons x xs =>
    have hokx : AccOK (x :: xs) := hacc ▸ hok
    cases x with
    | semi => simp [revCode, LTok.revChars]
    | nl d =>
      cases d with
      | zero => simp [revCode, LTok.revChars]
      | succ d => simp [revCode, LTok.revChars, List.replicate_succ]
    | t sp' tok' =>
      obtain ⟨c, cs, e, hc⟩ := hokx.head_t
      have hcne : c ≠ ';' := by rintro rfl; cases hc
      simp [revCode, e, hcne]

theorem sim_step (sp : Spacing) (tok : Tok) (ht : textOK tok = true) :
    Sim (step sp st tok) (lstep sp ls tok) ∧ AccOK (lstep sp ls tok).acc := by
  by_cases hl : Spec.Lex.isLayout tok = false
  · obtain ⟨c, ty, e1, e2⟩ := step_real sp h.prev tok hl
    rw [e1, e2]
    exact sim_push h hok c tok ty ht hl
  cases tok with
  | newline => exact sim_newline h hok
  | indentInc => exact ⟨⟨h.code, congrArg (· + 1) h.indent, h.prev⟩, hok⟩
  | indentDec => exact ⟨⟨h.code, congrArg (· - 1) h.indent, h.prev⟩, hok⟩
  | endStmt =>
    unfold step lstep
    rw [h.indent]
    by_cases h0 : (ls.indent == 0) = true
    · simp only [h0, if_true]
      obtain ⟨hs, ha⟩ := sim_newline h hok
      exact ⟨⟨hs.code, hs.indent, rfl⟩, ha⟩
    · simp only [h0, Bool.false_eq_true, if_false]
      have hiff := semi_head_iff h hok
      split
      · rename_i tl hcode
        obtain ⟨tl', hacc⟩ := hiff.mp ⟨tl, hcode⟩
        split
        · exact ⟨⟨h.code, rfl, rfl⟩, hok⟩
        · rename_i hne; exact absurd hacc (hne tl')
      · rename_i hne
        split
        · rename_i tl' hacc
          obtain ⟨tl, hcode⟩ := hiff.mpr ⟨tl', hacc⟩
          exact absurd hcode (hne tl)
        · exact ⟨⟨by simp [revCode, LTok.revChars, h.code], rfl, rfl⟩, hok.cons trivial⟩
  | _ => exact absurd rfl hl

end

theorem sim_run_aux (sp : Spacing) (ts : List Tok) (hts : ∀ tok ∈ ts, textOK tok = true) :
    Sim (run sp ts) (lrun sp ts) ∧ AccOK (lrun sp ts).acc :=
  List.foldl_rel (r := fun st ls => Sim st ls ∧ AccOK ls.acc) ⟨⟨rfl, rfl, rfl⟩, fun _ h => nomatch h⟩
    fun tok htok _ _ h => sim_step h.1 h.2 sp tok (hts tok htok)

/-- T02.5: the character-level printer refines the layout-token machine -/
theorem sim_run (sp : Spacing) (ts : List Tok) (hts : ∀ tok ∈ ts, textOK tok = true) :
    (run sp ts).code = revCode (lrun sp ts).acc ∧ (run sp ts).indent = (lrun sp ts).indent :=
  have h := (sim_run_aux sp ts hts).1
  ⟨h.code, h.indent⟩

/-- T02.5 for the printed text: what `render` strips at the end is what the trailing layout tokens print -/
theorem render_eq (sp : Spacing) (ts : List Tok) (hts : ∀ tok ∈ ts, textOK tok = true) :
    render sp ts = String.ofList (revCode ((lrun sp ts).acc.dropWhile LTok.isLay)).reverse := by
  obtain ⟨h, hok⟩ := sim_run_aux sp ts hts
  rw [render, h.code, dropWhile_revCode _ hok]

end PMV.Spec.Layout
