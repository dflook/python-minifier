import PMV.Proofs.PyCoreSim
import PMV.Proofs.PyCoreBind
import PMV.Model.Traverse
/-
  A transformer that rewrites expressions only and preserves the value of every expression that has one *refines* the
  behaviour: wherever the original program is inside the core (not `stuck`), the transformed program does exactly the same.
-/
namespace PMV.PyCore
open PMV PMV.Traverse

variable {o : Bool}

def Res.le (r r' : Res Flow) : Prop := r = .stuck ∨ r' = r

theorem Res.le_refl (r : Res Flow) : Res.le r r := Or.inr rfl

theorem stuck_le (r : Res Flow) : Res.le .stuck r := Or.inl rfl

/-- a refinement is an equality for the observer of a run that stays inside the core -/
theorem observe_le {r r' : Res Flow} (h : Res.le r r') (hcore : (observe r St.init).ending ≠ "stuck") :
    observe r' St.init = observe r St.init := by
  rcases h with rfl | rfl
  · exact absurd rfl hcore
  · rfl

/-- `evalOK` is the claim about values.  The rest says that the map is invisible to what the semantics reads off the
    syntax: `name`, `notName` for `nameOf`; `call`, `notCall` for `asNameCall`; `const` for literal statements, `params` for
    the function table, `handlerTy` for `excKind`, `dbgCmp` for `condE`, `core` for `bindS`. -/
structure ExprOK (m : ExprMap) : Prop where
  evalOK : ∀ s e, evalE s e ≠ none → evalE s (m.e e) = evalE s e
  name : ∀ x c, m.e (.name x c) = .name x c
  const : ∀ e, isConst e = true → m.e e = e
  call : ∀ g c args, m.e (.call (.name g c) args []) = .call (.name g c) (args.map m.e) []
  notCall : ∀ e, asNameCall e = none → asNameCall (m.e e) = none
  notName : ∀ e, nameOf e = none → nameOf (m.e e) = none
  params : ∀ a, paramNames (m.args a) = paramNames a
  handlerTy : ∀ ty, excKind (mapO m.e ty) = excKind ty
  dbgCmp : ∀ e, debugCmp (m.e e) = (debugCmp e).map (fun p => (p.1, m.e p.2))
  core : ∀ e, coreE (m.e e) = coreE e

theorem ExprOK.eval_some {m : ExprMap} (h : ExprOK m) {s : St} {e : Expr} {r : Except String Val} (he : evalE s e = some r) :
    evalE s (m.e e) = some r :=
  (h.evalOK s e (by simp [he])).trans he

theorem evalArgs_map (m : ExprMap) (h : ExprOK m) (s : St) : ∀ (args : List Expr) {r : Except String (List Val)},
    evalArgs s args = some r → evalArgs s (args.map m.e) = some r
  | [], _, hr => hr
  | e :: es, r, hr => by
    simp only [List.map, evalArgs] at hr ⊢
    cases he : evalE s e with
    | none => simp [he] at hr
    | some v =>
      rw [h.eval_some he]; rw [he] at hr
      cases v with
      | error x => exact hr
      | ok v =>
        cases hes : evalArgs s es with
        | none => simp [hes] at hr
        | some rs => rw [evalArgs_map m h s es hes]; rwa [hes] at hr

theorem evalThen_le (m : ExprMap) (h : ExprOK m) (s : St) (e : Expr) (k : Val → Res Flow) :
    Res.le (evalThen s e k) (evalThen s (m.e e) k) := by
  unfold evalThen
  cases he : evalE s e with
  | none => left; rfl
  | some r => right; rw [h.eval_some he]

theorem nameOf_map (m : ExprMap) (h : ExprOK m) (e : Expr) : nameOf (m.e e) = nameOf e := by
  cases hn : nameOf e with
  | none => exact h.notName e hn
  | some p =>
    obtain ⟨x, c⟩ := p
    rw [nameOf_some e x c hn, h.name]; rfl

theorem assignTarget_map (m : ExprMap) (h : ExprOK m) (ts : List Expr) :
    assignTarget (ts.map m.e) = assignTarget ts := by
  rw [assignTarget_eq, assignTarget_eq]
  match ts with
  | [] => rfl
  | [e] => simp [nameOf_map m h e]
  | _ :: _ :: _ => rfl

theorem asNameCall_map (m : ExprMap) (h : ExprOK m) (e : Expr) :
    asNameCall (m.e e) = (asNameCall e).map (fun p => (p.1, p.2.1, p.2.2.map m.e)) := by
  cases hc : asNameCall e with
  | none => simp [h.notCall e hc]
  | some p =>
    obtain ⟨g, c, args⟩ := p
    rw [asNameCall_some e g c args hc, h.call]
    rfl

theorem isConst_noError (s : St) (e : Expr) (x : String) (hc : isConst e = true) : evalE s e ≠ some (.error x) := by
  cases e <;> simp [isConst] at hc
  rename_i c
  cases c <;> simp [evalE]

theorem isConst_notCall (e : Expr) (hc : isConst e = true) : asNameCall e = none := by
  cases e <;> simp [isConst] at hc
  rfl

theorem exprStmt_le (m : ExprMap) (h : ExprOK m) (s : St) (e : Expr) :
    Res.le (exprStmt s e) (exprStmt s (m.e e)) := by
  by_cases hc : isConst e = true
  · rw [h.const e hc]; exact Res.le_refl _
  · unfold exprStmt
    simp only [hc, Bool.false_eq_true, if_false]
    rw [printArgs_eq e, printArgs_eq (m.e e), asNameCall_map m h e]
    cases hcall : asNameCall e with
    | some p =>
      obtain ⟨g, c, args⟩ := p
      have hnc : isConst (m.e e) = false := by
        rw [asNameCall_some e g c args hcall, h.call]; rfl
      simp only [hnc, Bool.false_eq_true, if_false, Option.map_some, Option.bind_some]
      by_cases hp : (g == "print") = true
      · simp only [hp, if_true]
        cases hargs : evalArgs s args with
        | none => left; rfl
        | some r => right; rw [evalArgs_map m h s args hargs]
      · simp only [hp, Bool.false_eq_true, if_false]
        exact evalThen_le m h s e _
    | none =>
      simp only [Option.map_none, Option.bind_none]
      cases he : evalE s e with
      | none => left; simp [evalThen, he]
      | some r =>
        right
        have hm := h.eval_some he
        -- the map may make the statement a literal (`1 + 2` → `3`), which is skipped: the original had the literal's
        -- value, not an exception, so it did nothing either
        by_cases hmc : isConst (m.e e) = true
        · simp only [hmc, if_true, evalThen, he]
          cases r with
          | ok v => rfl
          | error x => exact absurd hm (isConst_noError s _ x hmc)
        · simp only [hmc, Bool.false_eq_true, if_false, evalThen, he, hm]

theorem evalE_binOp_right (m : ExprMap) (h : ExprOK m) (s : St) (l : Expr) (op : BinOpK) (r : Expr) {x : Except String Val}
    (hx : evalE s (.binOp l op r) = some x) : evalE s (.binOp l op (m.e r)) = some x := by
  rw [evalE_binOp] at hx ⊢
  cases hl : evalE s l with
  | none => rw [hl] at hx; cases hx
  | some rl =>
    rw [hl] at hx
    cases rl with
    | error _ => exact hx
    | ok a =>
      cases hr : evalE s r with
      | none => rw [hr] at hx; cases hx
      | some rr => rw [h.eval_some hr]; rwa [hr] at hx

theorem raiseName_map (m : ExprMap) (h : ExprOK m) (e c : Option Expr) :
    raiseName (mapO m.e e) (mapO m.e c) = raiseName e c := by
  rw [raiseName_eq, raiseName_eq]
  cases c with
  | some _ => cases e <;> rfl
  | none =>
    cases e with
    | none => rfl
    | some x =>
      simp only [mapO, nameOf_map m h x, asNameCall_map m h x]
      cases nameOf x with
      | some p => rfl
      | none =>
        cases asNameCall x with
        | none => rfl
        | some q => obtain ⟨g, c, args⟩ := q; cases args <;> rfl

theorem callOf_map (m : ExprMap) (h : ExprOK m) (st : Stmt) :
    callOf (mapStmt m st) = (callOf st).map (fun p => (p.1, p.2.1.map m.e, p.2.2)) := by
  cases st
  case expr e =>
    simp only [mapStmt, callOf_expr_eq, asNameCall_map m h e]
    cases asNameCall e with
    | none => rfl
    | some p => obtain ⟨g, c, args⟩ := p; simp only [Option.map_some, Option.bind_some]; split <;> rfl
  case assign ts v =>
    simp only [mapStmt, callOf_assign_eq, assignTarget_map m h ts, asNameCall_map m h v]
    cases assignTarget ts with
    | none => rfl
    | some x =>
      cases asNameCall v with
      | none => rfl
      | some p => rfl
  all_goals rfl

theorem plainHead_mapStmt (m : ExprMap) (a : Bool) (decs : List Expr) (ret : Option Expr) (tps : List TypeParam) :
    plainHead a (decs.map m.e) (mapO m.e ret) (if m.funcTypeParams then tps.map (mapTypeParam m.e) else tps) =
      plainHead a decs ret tps :=
  plainHead_congr a (by cases decs <;> rfl) (by cases ret <;> rfl) (by cases m.funcTypeParams <;> cases tps <;> rfl)

theorem simpleExec_le (m : ExprMap) (h : ExprOK m) (s : St) (st : Stmt) :
    Res.le (simpleExec s st) (simpleExec s (mapStmt m st)) := by
  cases st
  case return_ v =>
    cases v with
    | none => exact Res.le_refl _
    | some e => simp only [mapStmt, mapO, simpleExec]; exact evalThen_le m h s e _
  case expr e => simp only [mapStmt, simpleExec]; exact exprStmt_le m h s e
  case assign ts v =>
    simp only [mapStmt, simpleExec, assignTarget_map m h ts]
    cases assignTarget ts with
    | none => left; rfl
    | some x => exact evalThen_le m h s v _
  case augAssign tg op v =>
    simp only [mapStmt, simpleExec, nameOf_map m h tg]
    cases nameOf tg with
    | none => left; rfl
    | some p =>
      obtain ⟨x, c⟩ := p
      simp only [evalThen]
      cases he : evalE s (.binOp (.name x c) op v) with
      | none => left; rfl
      | some r => right; rw [evalE_binOp_right m h s _ op v he]
  case assert_ c msg => simp only [mapStmt, simpleExec]; exact evalThen_le m h s c _
  case raise_ e c => simp only [mapStmt, simpleExec, raiseName_map m h e c]; exact Res.le_refl _
  case functionDef a n args body decs ret tps =>
    simp only [mapStmt, simpleExec, isPlainDef_functionDef, h.params, plainHead_mapStmt]
    exact Res.le_refl _
  case pass | break_ | continue_ | global | import_ | importFrom => exact Res.le_refl _
  case annAssign tg ann v simple =>
    simp only [mapStmt, simpleExec, nameOf_map m h tg]
    by_cases hc : (s.locals.isSome && simple) = true
    · simp only [hc, if_true]
      cases nameOf tg with
      | none => left; rfl
      | some p =>
        cases v with
        | none => exact Res.le_refl _
        | some e => simp only [mapO]; exact evalThen_le m h s e _
    · simp only [hc, Bool.false_eq_true, if_false]; left; rfl
  all_goals (left; rfl)

def mapFT (m : ExprMap) : FTab → FTab
  | [] => []
  | (n, ps, b) :: rest => (n, ps, mapBody m b) :: mapFT m rest

theorem lookup_mapFT (m : ExprMap) (f : String) (ft : FTab) :
    (mapFT m ft).lookup f = (ft.lookup f).map (fun pb => (pb.1, mapBody m pb.2)) :=
  lookup_mapBodies (B := fun _ => mapBody m) rfl (fun _ _ _ _ => rfl) f ft

theorem mapBody_eq_map (m : ExprMap) : ∀ l : List Stmt, mapBody m l = l.map (mapStmt m)
  | [] => rfl
  | st :: rest => congrArg (mapStmt m st :: ·) (mapBody_eq_map m rest)

theorem forRange_map (m : ExprMap) (h : ExprOK m) (tg it : Expr) :
    forRange (m.e tg) (m.e it) = (forRange tg it).map (fun p => (p.1, m.e p.2)) := by
  rw [forRange_eq, forRange_eq, nameOf_map m h tg, asNameCall_map m h it]
  cases nameOf tg with
  | none => rfl
  | some p =>
    obtain ⟨x, c⟩ := p
    cases asNameCall it with
    | none => rfl
    | some q =>
      obtain ⟨f, c2, args⟩ := q
      match args with
      | [] => rfl
      | [e] => simp only [Option.map_some, List.map]; split <;> rfl
      | _ :: _ :: _ => rfl

theorem all_core_map (m : ExprMap) (h : ExprOK m) : ∀ args : List Expr, (args.map m.e).all coreE = args.all coreE
  | [] => rfl
  | e :: es => by simp only [List.map, List.all_cons, h.core, all_core_map m h es]

theorem coreX_map (m : ExprMap) (h : ExprOK m) (e : Expr) : coreX (m.e e) = coreX e := by
  rw [coreX_eq, coreX_eq, asNameCall_map m h e]
  cases asNameCall e with
  | none => exact h.core e
  | some p => simp only [Option.map_some]; exact all_core_map m h p.2.2

mutual
theorem bindS_map (m : ExprMap) (h : ExprOK m) : ∀ st : Stmt, bindS (mapStmt m st) = bindS st
  | .functionDef .. | .classDef .. | .delete _ | .typeAlias .. | .with_ .. | .match_ .. | .for_ true .. | .try_ true ..
  | .import_ _ | .importFrom .. | .global _ | .nonlocal _ | .pass | .break_ | .continue_ => rfl
  | .return_ v => by cases v <;> simp [mapStmt, mapO, bindS, h.core]
  | .assign ts v => by simp only [mapStmt, bindS, assignTarget_map m h ts, coreX_map m h v]
  | .augAssign tg op v => by simp only [mapStmt, bindS, nameOf_map m h tg, h.core]
  | .annAssign tg ann v simple => by
    cases v <;> simp only [mapStmt, mapO, bindS, nameOf_map m h tg, h.core]
  | .for_ false tg it body orelse => by
    simp only [mapStmt, bindS, forRange_map m h tg it, bindL_map m h body, bindL_map m h orelse]
    cases forRange tg it with
    | none => rfl
    | some p => simp only [Option.map_some, h.core]
  | .while_ c body orelse | .if_ c body orelse => by
    simp only [mapStmt, bindS, h.core, bindL_map m h body, bindL_map m h orelse]
  | .raise_ e c => by simp only [mapStmt, bindS, raiseName_map m h e c]
  | .try_ false body hs orelse fin => by
    simp only [mapStmt, bindS, bindL_map m h body, bindH_map m h hs, bindL_map m h orelse, bindL_map m h fin]
  | .assert_ c msg => by cases msg <;> simp [mapStmt, mapO, bindS, h.core]
  | .expr v => by simp only [mapStmt, bindS, coreX_map m h v]
theorem bindL_map (m : ExprMap) (h : ExprOK m) : ∀ b : List Stmt, bindL (mapBody m b) = bindL b
  | [] => rfl
  | st :: rest => by simp only [mapBody, bindL, bindS_map m h st, bindL_map m h rest]
theorem bindH_map (m : ExprMap) (h : ExprOK m) : ∀ hs : List Handler, bindH (mapHandlers m hs) = bindH hs
  | [] => rfl
  | .mk ty nm body :: rest => by simp only [mapHandlers, bindH, h.handlerTy, bindL_map m h body, bindH_map m h rest]
end

theorem bindS0_map (m : ExprMap) (h : ExprOK m) (st : Stmt) : bindS0 (mapStmt m st) = bindS0 st := by
  have hs := bindS_map m h st
  cases st
  case global => rfl
  all_goals exact hs

theorem ExprOK.valOK {m : ExprMap} (h : ExprOK m) (s : St) (e : Expr) :
    ValOK (fun r : Res Flow => r = .stuck) (evalE s e) (evalE s (m.e e)) := by
  cases he : evalE s e with
  | none => exact Or.inl ⟨rfl, rfl⟩
  | some r => exact Or.inr (h.eval_some he)

theorem ExprOK.argsOK {m : ExprMap} (h : ExprOK m) (s : St) (args : List Expr) :
    ValOK (fun r : Res Flow => r = .stuck) (evalArgs s args) (evalArgs s (args.map m.e)) := by
  cases he : evalArgs s args with
  | none => exact Or.inl ⟨rfl, rfl⟩
  | some r => exact Or.inr (evalArgs_map m h s args he)

theorem ExprOK.condOK {m : ExprMap} (h : ExprOK m) (s : St) (c : Expr) :
    ValOK (fun r : Res Flow => r = .stuck) (condE o s c) (condE o s (m.e c)) := by
  have hn : isDbgName (m.e c) = isDbgName c := by rw [isDbgName_eq (m.e c), isDbgName_eq c, nameOf_map m h c]
  unfold condE
  rw [hn, h.dbgCmp c]
  cases isDbgName c with
  | true => exact .of_eq rfl
  | false =>
    cases debugCmp c with
    | some p =>
      obtain ⟨op, e⟩ := p
      simp only [Option.map_some, Bool.false_eq_true, if_false]
      rcases h.valOK s e with ⟨he, _⟩ | he
      · exact Or.inl ⟨by rw [he], rfl⟩
      · exact Or.inr (by rw [he])
    | none => exact h.valOK s c

theorem isBlockStmt_mapStmt (m : ExprMap) (st : Stmt) : isBlockStmt (mapStmt m st) = isBlockStmt st := by
  cases st with
  | try_ star => cases star <;> rfl
  | for_ isAsync => cases isAsync <;> rfl
  | _ => rfl

theorem map_sim (m : ExprMap) (h : ExprOK m) {ft ft' : FTab} {N : Nat} (hC : SimC (.le o ft ft') N) :
    SimTree (.le o ft ft') N (mapStmt m) (mapBody m) (mapHandlers m) :=
  BlockInd.all {
    if_ := fun c _ _ hb he => .if_ (fun s s' q => by rw [q]; exact h.condOK s c) hb he
    while_ := fun c _ _ hb he => .while_ (fun s s' q => by rw [q]; exact h.valOK s c) hb he
    for_ := fun tg it _ _ hb he =>
      .for_ (ν := id) ⟨forRange_map m h tg it, fun x bnd _ => ⟨fun s s' q => by rw [q]; exact h.valOK s bnd, same_assign x⟩⟩
        hb he
    try_ := fun _ _ _ _ hb hh he hf => .try_ hb hh he hf
    nil := .nil
    cons := fun _ _ h1 hl => .cons h1 hl
    hnil := .nil
    hcons := fun ty _ _ _ hb hr => .cons (h.handlerTy ty) hb hr
    flat := fun st hst => by
      refine .flatSame hst ((isBlockStmt_mapStmt m st).trans hst) (by cases st <;> rfl) ?_ hC
      rw [callOf_map m h st]
      cases callOf st with
      | none => exact ⟨rfl, fun s => Runs.rel_same.mpr (simpleExec_le m h s st)⟩
      | some p => exact ⟨_, rfl, fun s => h.argsOK s p.2.1⟩ }

theorem map_sim_all (m : ExprMap) (h : ExprOK m) (ft : FTab) (N : Nat) :
    SimTree (.le o ft (mapFT m ft)) N (mapStmt m) (mapBody m) (mapHandlers m) :=
  SimTree.all (fun _ => map_sim m h) (fun _ _ => Or.inl rfl)
    (fun f ps b (hl : ft.lookup f = some (ps, b)) =>
      ⟨mapBody m b, (lookup_mapFT m f ft).trans (congrArg _ hl),
        by rw [mapBody_eq_map]; exact declaredGlobals_map _ (fun st => by cases st <;> rfl) b,
        Or.inr (by rw [mapBody_eq_map, bindTop_map_of _ (bindS0_map m h)]), fun _ _ => rfl⟩) N

def GoodM (o : Bool) (m : ExprMap) (ft : FTab) (n : Nat) : Prop :=
  (∀ s st, Res.le (exec1 ⟨ft, o⟩ n s st) (exec1 ⟨mapFT m ft, o⟩ n s (mapStmt m st))) ∧
  (∀ s l, Res.le (execL ⟨ft, o⟩ n s l) (execL ⟨mapFT m ft, o⟩ n s (mapBody m l)))

theorem execH_le (m : ExprMap) (h : ExprOK m) (ft : FTab) (n : Nat) (ih : ∀ k, k < n → GoodM o m ft k) :
    (hs : List Handler) → (s : St) → (x : String) →
      Res.le (execH ⟨ft, o⟩ n s x hs) (execH ⟨mapFT m ft, o⟩ n s x (mapHandlers m hs)) :=
  fun hs s x => (map_sim_all m h ft n).handlers s x hs

theorem defOf_mapStmt (m : ExprMap) (h : ExprOK m) (st : Stmt) :
    defOf (mapStmt m st) = (defOf st).map (fun e => (e.1, e.2.1, mapBody m e.2.2)) := by
  cases st with
  | functionDef a n args body decs ret tps =>
    simp only [mapStmt, defOf_functionDef, h.params, plainHead_mapStmt]
    cases plainHead a decs ret tps <;> cases paramNames args <;> rfl
  | _ => rfl

theorem collect_mapBody (m : ExprMap) (h : ExprOK m) (l : List Stmt) : collect (mapBody m l) = mapFT m (collect l) := by
  rw [mapBody_eq_map]; exact collect_mapBodies (B := fun _ => mapBody m) rfl (fun _ _ _ _ => rfl) (defOf_mapStmt m h) l

theorem runWith_map (m : ExprMap) (h : ExprOK m) (n : Nat) (md : Module) (hcore : (runWith o n md).ending ≠ "stuck") :
    runWith o n (mapModule m md) = runWith o n md := by
  unfold runWith mapModule at *
  rw [collect_mapBody m h]
  exact observe_le ((map_sim_all m h _ n).list St.init md.body) hcore

theorem run_map (m : ExprMap) (h : ExprOK m) (n : Nat) (md : Module) (hcore : (run n md).ending ≠ "stuck") :
    run n (mapModule m md) = run n md := runWith_map m h n md hcore

end PMV.PyCore
