import PMV.Model.ExprPrinter
/-
  T12.3: if an expression satisfies `ClosedLit`, its printed text is made of number literals, True/False/None,
  operators and parentheses only — no identifier, attribute, call, string or import can occur.  That what
  `FoldConstants` hands to `eval` satisfies `ClosedLit` is a hypothesis here; nothing derives it from `foldBinOp`.
-/
namespace PMV.Fold
open PMV PMV.Printer PMV.Token

/-- characters of a number literal as the printer spells it (digits, hex digits, `.`, exponent, `j`,
    `x`, signs and parentheses of a complex repr) — in particular no `i`, `n`: never `inf` / `nan`. -/
def numChar (c : Char) : Bool :=
  c.isDigit || c == '.' || c == 'e' || c == 'j' || c == 'x' || c == '+' || c == '-' || c == '(' || c == ')'
  || c == 'a' || c == 'b' || c == 'c' || c == 'd' || c == 'f'

def numericText (s : String) : Bool := s.toList.all numChar

def ClosedLit : Expr → Bool
  | .constant .none => true
  | .constant .true_ => true
  | .constant .false_ => true
  | .constant (.int n) => numericText (intText n)
  | .constant (.float r) => numericText (floatText r)
  | .constant (.complex r) => numericText (imagText r)
  | .binOp l _ r => ClosedLit l && ClosedLit r
  | .unaryOp .uSub v => ClosedLit v
  | .paren e => ClosedLit e
  | _ => false

def closedTok : Tok → Bool
  | .num s => numericText s
  | .op _ => true
  | .kw k => k == "None" || k == "True" || k == "False"
  | .delim d => d == "(" || d == ")"
  | _ => false

theorem closedLit_wrapIf (b : Bool) (e : Expr) : ClosedLit (wrapIf b e) = ClosedLit e := by
  cases b <;> rfl

theorem closedLit_slotPrec (b : Bool) (o e : Expr) : ClosedLit (slotPrec b o e) = ClosedLit e :=
  (closedLit_wrapIf _ _).trans (closedLit_wrapIf _ _)

theorem ClosedLit.induction {P : Expr → Prop}
    (const : ∀ c, ClosedLit (.constant c) = true → P (.constant c))
    (bin : ∀ l op r, ClosedLit l = true → ClosedLit r = true → P l → P r → P (.binOp l op r))
    (neg : ∀ v, ClosedLit v = true → P v → P (.unaryOp .uSub v))
    (par : ∀ e, ClosedLit e = true → P e → P (.paren e)) (e : Expr) (h : ClosedLit e = true) : P e := by
  cases e with
  | constant c => exact const c h
  | binOp l op r =>
    have h := Bool.and_eq_true_iff.mp h
    exact bin l op r h.1 h.2 (ClosedLit.induction const bin neg par l h.1) (ClosedLit.induction const bin neg par r h.2)
  | unaryOp op v =>
    cases op with
    | uSub => exact neg v h (ClosedLit.induction const bin neg par v h)
    | _ => exact absurd h Bool.false_ne_true
  | paren e => exact par e h (ClosedLit.induction const bin neg par e h)
  | _ => exact absurd h Bool.false_ne_true

theorem paren_closed (t : PrecTable) : (e : Expr) → ClosedLit e = true → ClosedLit (paren t e) = true :=
  ClosedLit.induction (P := fun e => ClosedLit (paren t e) = true)
    (fun _ h => h)
    (fun _ _ _ _ _ ihl ihr =>
      Bool.and_eq_true_iff.mpr ⟨(closedLit_slotPrec _ _ _).trans ihl, (closedLit_slotPrec _ _ _).trans ihr⟩)
    (fun _ _ ih => (closedLit_slotPrec _ _ _).trans ih)
    (fun _ _ ih => ih)

theorem binOpTok_closed (op : BinOpK) : closedTok (binOpTok op) = true := by cases op <;> rfl

theorem flat_closed : (e : Expr) → ClosedLit e = true → (flat e).all closedTok = true :=
  ClosedLit.induction (P := fun e => (flat e).all closedTok = true)
    (fun c h => by
      cases c with
      | none | true_ | false_ => decide +kernel
      | int _ | float _ | complex _ => exact (Bool.and_true _).trans h
      | ellipsis | str _ _ | bytes _ _ => cases h)
    (fun l op r _ _ ihl ihr => List.all_append.trans (by simp [ihl, ihr, binOpTok_closed]))
    (fun _ _ ih => ih)
    (fun e _ ih => List.all_cons.trans (by simp [closedTok, ih]))

end PMV.Fold
