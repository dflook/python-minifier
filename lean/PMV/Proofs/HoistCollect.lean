import PMV.Model.HoistCollect
/-
  The collecting traversal of `HoistLiterals` collects exactly the literal occurrences of the blanked module (patterns, string
  statements and class-level `__slots__` assignments erased), at any depth, and only constants it has a visitor for (`AllH`).
  The grouping into hoisted bindings (`groupsFrom`) counts each once, under a key of the same value that is itself an occurrence.
-/
namespace PMV.HoistCollect
open PMV

theorem allS_pass : allS .pass = [] := rfl

theorem append_congr {α} {a a' b b' : List α} (ha : a = a') (hb : b = b') : a ++ b = a' ++ b' := ha ▸ hb ▸ rfl

theorem allS_blanked (c : Bool) (st : Stmt) : allS (if c then .pass else st) = if c then [] else allS st := by
  cases c <;> rfl

mutual
theorem colS_blank (cls : Bool) : (st : Stmt) → colS cls st = allS (blankS cls st)
  | .functionDef _ _ args body decs ret tps =>
    congrArg (colArguments args ++ · ++ colEs decs ++ colO ret ++ colTypeParams tps) (colL_blank false body)
  | .classDef _ bases kws body decs tps =>
    congrArg (colEs bases ++ colKws kws ++ · ++ colEs decs ++ colTypeParams tps) (colL_blank true body)
  -- an excluded statement is blanked to `pass`, any other one is left as it is
  | .assign .. | .augAssign .. | .annAssign .. | .expr _ => Eq.symm (allS_blanked _ _)
  | .for_ _ _ _ body orelse | .while_ _ body orelse | .if_ _ body orelse =>
    append_congr (append_congr rfl (colL_blank cls body)) (colL_blank cls orelse)
  | .with_ _ _ body => append_congr rfl (colL_blank cls body)
  | .match_ _ cases => append_congr rfl (colC_blank cls cases)
  | .try_ _ body hs orelse fin =>
    append_congr (append_congr (append_congr (colL_blank cls body) (colH_blank cls hs)) (colL_blank cls orelse)) (colL_blank cls fin)
  -- nothing is blanked in a statement without blocks that is not excluded
  | .return_ _ | .delete _ | .typeAlias .. | .raise_ .. | .assert_ .. | .import_ _ | .importFrom .. | .global _ | .nonlocal _
  | .pass | .break_ | .continue_ => rfl
theorem colL_blank (cls : Bool) : (ss : List Stmt) → colL cls ss = allL (blankL cls ss)
  | [] => rfl
  | s :: ss => append_congr (colS_blank cls s) (colL_blank cls ss)
theorem colH_blank (cls : Bool) : (hs : List Handler) → colH cls hs = allH (blankH cls hs)
  | [] => rfl
  | .mk _ _ body :: hs => append_congr (append_congr rfl (colL_blank cls body)) (colH_blank cls hs)
theorem colC_blank (cls : Bool) : (cs : List MatchCase) → colC cls cs = allC (blankC cls cs)
  | [] => rfl
  | .mk _ _ body :: cs => append_congr (append_congr rfl (colL_blank cls body)) (colC_blank cls cs)
end

def AllH (l : List Const) : Prop := ∀ c ∈ l, hoistable c = true

theorem AllH.nil : AllH [] := by intro c h; cases h
theorem AllH.append {a b : List Const} (ha : AllH a) (hb : AllH b) : AllH (a ++ b) := by
  intro c h
  rcases List.mem_append.mp h with h | h
  · exact ha c h
  · exact hb c h

theorem AllH.ite {p : Prop} [Decidable p] {a b : List Const} (ha : p → AllH a) (hb : AllH b) : AllH (if p then a else b) := by
  split
  · next h => exact ha h
  · exact hb

mutual
theorem colE_hoistable : (e : Expr) → AllH (colE e)
  | .boolOp _ vs => colEs_hoistable vs
  | .namedExpr t v => (colE_hoistable t).append (colE_hoistable v)
  | .binOp l _ r => (colE_hoistable l).append (colE_hoistable r)
  | .unaryOp _ e => colE_hoistable e
  | .lambda a b => (colArguments_hoistable a).append (colE_hoistable b)
  | .ifExp c a b => ((colE_hoistable c).append (colE_hoistable a)).append (colE_hoistable b)
  | .dict ks vs => (colOEs_hoistable ks).append (colEs_hoistable vs)
  | .set es => colEs_hoistable es
  | .listComp e gs => (colE_hoistable e).append (colComps_hoistable gs)
  | .setComp e gs => (colE_hoistable e).append (colComps_hoistable gs)
  | .dictComp k v gs => ((colE_hoistable k).append (colE_hoistable v)).append (colComps_hoistable gs)
  | .generatorExp e gs => (colE_hoistable e).append (colComps_hoistable gs)
  | .await e => colE_hoistable e
  | .yield v => colO_hoistable v
  | .yieldFrom e => colE_hoistable e
  | .compare l _ cs => (colE_hoistable l).append (colEs_hoistable cs)
  | .call f as kws => ((colE_hoistable f).append (colEs_hoistable as)).append (colKws_hoistable kws)
  | .joinedStr _ parts => colEs_hoistable parts
  | .constant _ => AllH.ite (fun h _ hd => List.mem_singleton.mp hd ▸ h) AllH.nil
  | .attribute v _ => colE_hoistable v
  | .subscript v s => (colE_hoistable v).append (colE_hoistable s)
  | .starred v => colE_hoistable v
  | .name _ _ => AllH.nil
  | .list es => colEs_hoistable es
  | .tuple es => colEs_hoistable es
  | .slice l u s => ((colO_hoistable l).append (colO_hoistable u)).append (colO_hoistable s)
  | .paren e => colE_hoistable e
theorem colEs_hoistable : (es : List Expr) → AllH (colEs es)
  | [] => AllH.nil
  | e :: es => (colE_hoistable e).append (colEs_hoistable es)
theorem colO_hoistable : (o : Option Expr) → AllH (colO o)
  | none => AllH.nil
  | some e => colE_hoistable e
theorem colOEs_hoistable : (os : List (Option Expr)) → AllH (colOEs os)
  | [] => AllH.nil
  | o :: os => (colO_hoistable o).append (colOEs_hoistable os)
theorem colKws_hoistable : (ks : List Keyword) → AllH (colKws ks)
  | [] => AllH.nil
  | .mk _ v :: ks => (colE_hoistable v).append (colKws_hoistable ks)
theorem colComps_hoistable : (gs : List Comprehension) → AllH (colComps gs)
  | [] => AllH.nil
  | .mk t i ifs _ :: gs => (((colE_hoistable t).append (colE_hoistable i)).append (colEs_hoistable ifs)).append (colComps_hoistable gs)
theorem colArg_hoistable : (a : Arg) → AllH (colArg a)
  | .mk _ ann => colO_hoistable ann
theorem colArgs_hoistable : (as : List Arg) → AllH (colArgs as)
  | [] => AllH.nil
  | a :: as => (colArg_hoistable a).append (colArgs_hoistable as)
theorem colOArg_hoistable : (a : Option Arg) → AllH (colOArg a)
  | none => AllH.nil
  | some a => colArg_hoistable a
theorem colArguments_hoistable : (a : Arguments) → AllH (colArguments a)
  | .mk po as va ko kd kw ds => ((((((colArgs_hoistable po).append (colArgs_hoistable as)).append (colOArg_hoistable va)).append
      (colArgs_hoistable ko)).append (colOEs_hoistable kd)).append (colOArg_hoistable kw)).append (colEs_hoistable ds)
end

theorem colTypeParams_hoistable : (ts : List TypeParam) → AllH (colTypeParams ts)
  | [] => AllH.nil
  | .typeVar _ b d :: ts => ((colO_hoistable b).append (colO_hoistable d)).append (colTypeParams_hoistable ts)
  | .paramSpec _ d :: ts | .typeVarTuple _ d :: ts => (colO_hoistable d).append (colTypeParams_hoistable ts)

theorem colWithItems_hoistable : (ws : List WithItem) → AllH (colWithItems ws)
  | [] => AllH.nil
  | _ :: ws => ((colE_hoistable _).append (colO_hoistable _)).append (colWithItems_hoistable ws)

mutual
theorem colS_hoistable (cls : Bool) : (st : Stmt) → AllH (colS cls st)
  | .functionDef _ _ args body decs ret tps => ((((colArguments_hoistable args).append (colL_hoistable false body)).append (colEs_hoistable decs)).append
      (colO_hoistable ret)).append (colTypeParams_hoistable tps)
  | .classDef _ bases kws body decs tps => ((((colEs_hoistable bases).append (colKws_hoistable kws)).append (colL_hoistable true body)).append
      (colEs_hoistable decs)).append (colTypeParams_hoistable tps)
  | .return_ v => colO_hoistable v
  | .delete ts => colEs_hoistable ts
  | .assign ts v => AllH.ite (fun _ => AllH.nil) ((colEs_hoistable ts).append (colE_hoistable v))
  | .typeAlias n tps v => ((colE_hoistable n).append (colTypeParams_hoistable tps)).append (colE_hoistable v)
  | .augAssign tg _ v => AllH.ite (fun _ => AllH.nil) ((colE_hoistable tg).append (colE_hoistable v))
  | .annAssign tg ann v _ => AllH.ite (fun _ => AllH.nil) (((colE_hoistable tg).append (colE_hoistable ann)).append (colO_hoistable v))
  | .for_ _ tg it body orelse => (((colE_hoistable tg).append (colE_hoistable it)).append (colL_hoistable cls body)).append (colL_hoistable cls orelse)
  | .while_ c body orelse | .if_ c body orelse =>
    ((colE_hoistable c).append (colL_hoistable cls body)).append (colL_hoistable cls orelse)
  | .with_ _ items body => (colWithItems_hoistable items).append (colL_hoistable cls body)
  | .match_ s cases => (colE_hoistable s).append (colC_hoistable cls cases)
  | .raise_ e c => (colO_hoistable e).append (colO_hoistable c)
  | .try_ _ body hs orelse fin => (((colL_hoistable cls body).append (colH_hoistable cls hs)).append (colL_hoistable cls orelse)).append
      (colL_hoistable cls fin)
  | .assert_ c msg => (colE_hoistable c).append (colO_hoistable msg)
  | .expr v => AllH.ite (fun _ => AllH.nil) (colE_hoistable v)
  | .import_ _ | .importFrom .. | .global _ | .nonlocal _ | .pass | .break_ | .continue_ => AllH.nil
theorem colL_hoistable (cls : Bool) : (ss : List Stmt) → AllH (colL cls ss)
  | [] => AllH.nil
  | s :: ss => (colS_hoistable cls s).append (colL_hoistable cls ss)
theorem colH_hoistable (cls : Bool) : (hs : List Handler) → AllH (colH cls hs)
  | [] => AllH.nil
  | .mk ty _ body :: hs => ((colO_hoistable ty).append (colL_hoistable cls body)).append (colH_hoistable cls hs)
theorem colC_hoistable (cls : Bool) : (cs : List MatchCase) → AllH (colC cls cs)
  | [] => AllH.nil
  | .mk _ g body :: cs => ((colO_hoistable g).append (colL_hoistable cls body)).append (colC_hoistable cls cs)
end

def total (g : List (Const × Nat)) : Nat := (g.map (·.2)).sum

theorem sameValue_refl (c : Const) (h : hoistable c = true) : sameValue c c = true := by
  cases c with
  | none | true_ | false_ => rfl
  | str _ a | bytes _ a => exact beq_self_eq_true a
  | _ => cases h

theorem sameValue_trans (a b c : Const) (h1 : sameValue a b = true) (h2 : sameValue b c = true) : sameValue a c = true := by
  unfold sameValue at h1
  split at h1
  · exact h2
  · exact h2
  · exact h2
  -- strings, bytes: the same payload, and the spelling is not looked at, so `a` compares with `c` as `b` does
  · cases eq_of_beq h1; cases c <;> exact h2
  · cases eq_of_beq h1; cases c <;> exact h2
  · cases h1

theorem insertG_total (c : Const) : (g : List (Const × Nat)) → total (insertG c g) = total g + 1
  | [] => rfl
  | (k, n) :: rest => by
    show total (if sameValue k c then (k, n + 1) :: rest else (k, n) :: insertG c rest) = n + total rest + 1
    split
    · exact Nat.add_right_comm n 1 (total rest)
    · exact congrArg (n + ·) (insertG_total c rest)

theorem keys_insertG (c : Const) : (g : List (Const × Nat)) →
    (insertG c g).map (·.1) = if g.any (fun e => sameValue e.1 c) then g.map (·.1) else g.map (·.1) ++ [c]
  | [] => rfl
  | (k, n) :: rest => by
    by_cases h : sameValue k c = true
    · simp only [insertG, List.any_cons, h, Bool.true_or, if_true, List.map_cons]
    · simp only [insertG, List.any_cons, h, Bool.false_or, Bool.false_eq_true, if_false, List.map_cons, keys_insertG c rest]
      split <;> rfl

theorem groupsFrom_total : (l : List Const) → (g : List (Const × Nat)) → total (groupsFrom g l) = total g + l.length
  | [], g => by simp [groupsFrom]
  | c :: cs, g => by
    simp only [groupsFrom, List.length_cons]
    rw [groupsFrom_total cs, insertG_total]; omega

theorem groupsFrom_keeps : (l : List Const) → (g : List (Const × Nat)) → g.map (·.1) ⊆ (groupsFrom g l).map (·.1)
  | [], _ => List.Subset.refl _
  | c :: cs, g => fun k hk => groupsFrom_keeps cs _ (by
      rw [keys_insertG]; split
      · exact hk
      · exact List.mem_append_left _ hk)

theorem groupsFrom_keys : (l : List Const) → (g : List (Const × Nat)) → (groupsFrom g l).map (·.1) ⊆ g.map (·.1) ++ l
  | [], _ => by simp [groupsFrom]
  | c :: cs, g => fun k hk => by
    have := groupsFrom_keys cs _ hk
    rw [keys_insertG] at this
    split at this
    · rcases List.mem_append.mp this with h | h
      · exact List.mem_append_left _ h
      · exact List.mem_append_right _ (List.mem_cons_of_mem _ h)
    · rwa [List.append_assoc] at this

theorem groupsFrom_covers : (l : List Const) → (g : List (Const × Nat)) → AllH l →
    ∀ c ∈ l, ∃ k ∈ (groupsFrom g l).map (·.1), sameValue k c = true
  | [], _, _, c => fun h => nomatch h
  | d :: ds, g, hh, c => fun h => by
    rcases List.mem_cons.mp h with rfl | h
    · -- once `c` is inserted some key has its value, and keys stay
      have : ∃ k ∈ (insertG c g).map (·.1), sameValue k c = true := by
        rw [keys_insertG]; split
        · next hany => obtain ⟨e, he, hs⟩ := List.any_eq_true.mp hany; exact ⟨e.1, List.mem_map_of_mem he, hs⟩
        · exact ⟨c, List.mem_append_right _ List.mem_cons_self, sameValue_refl c (hh c List.mem_cons_self)⟩
      obtain ⟨k, hk, hs⟩ := this
      exact ⟨k, groupsFrom_keeps ds _ hk, hs⟩
    · exact groupsFrom_covers ds _ (fun x hx => hh x (List.mem_cons_of_mem _ hx)) c h

end PMV.HoistCollect
