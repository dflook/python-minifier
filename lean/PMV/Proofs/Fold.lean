import PMV.Model.Fold
/- C07: the folding model preserves `evalLit` — value, type tag and error alike — at any nesting depth. -/
namespace PMV.Fold
open PMV PMV.Printer PMV.Token

/-- complex negation is an oracle parameter; `-True` is the int `-1` -/
def negVal (orc : Oracle) : FVal → Option FVal
  | .int n => some (.int (-n))
  | .bool b => some (.int (-(if b then 1 else 0)))
  | .float neg mag => some (.float (!neg) mag)
  | .complex r => (orc.neg.lookup ("c:" ++ r)).bind parseKey
  | .none => none

/-- division and power always go through the oracle -/
def evalBinAll (orc : Oracle) (op : BinOpK) (l r : FVal) : Option FVal :=
  if op == .div || op == .pow then
    match orc.binop.lookup (binOpName op ++ "|" ++ l.key ++ "|" ++ r.key) with
    | some k => parseKey k
    | none => none
  else evalBin orc op l r

/-- Specification: the value of a closed literal arithmetic expression (`none` = raises / not literal). -/
def evalLit (orc : Oracle) : Expr → Option FVal
  | .constant c => operandVal (.constant c)
  | .unaryOp .uSub e => (evalLit orc e).bind (negVal orc)
  | .binOp l op r =>
    match evalLit orc l, evalLit orc r with
    | some a, some b => evalBinAll orc op a b
    | _, _ => none
  | _ => none

/-- the oracle's complex negation is an involution (true of CPython: negation is exact). -/
def NegInvolutive (orc : Oracle) : Prop :=
  ∀ r k r', orc.neg.lookup ("c:" ++ r) = some k → parseKey k = some (.complex r') →
    (orc.neg.lookup ("c:" ++ r')).bind parseKey = some (.complex r)

theorem evalLit_binOp (orc : Oracle) (l : Expr) (op : BinOpK) (r : Expr) : evalLit orc (.binOp l op r) =
    match evalLit orc l, evalLit orc r with
    | some a, some b => evalBinAll orc op a b
    | _, _ => none := rfl

theorem operandVal_evalLit (orc : Oracle) (e : Expr) (v : FVal) (h : operandVal e = some v) :
    evalLit orc e = some v := by
  cases e with
  | constant c => exact h
  | _ => cases h

/-- The literals `newNode` can build, once: an eliminator over its seven successful branches. -/
theorem newNode_cases (orc : Oracle) {P : FVal → Expr → Prop}
    (bool : ∀ b, P (.bool b) (.constant (if b then .true_ else .false_)))
    (intNeg : ∀ n, n < 0 → P (.int n) (.unaryOp .uSub (.constant (.int (-n)))))
    (intPos : ∀ n, ¬n < 0 → P (.int n) (.constant (.int n)))
    (floatNeg : ∀ mag, P (.float true mag) (.unaryOp .uSub (.constant (.float mag))))
    (floatPos : ∀ mag, P (.float false mag) (.constant (.float mag)))
    (complexNeg : ∀ r k r', orc.neg.lookup ("c:" ++ r) = some k → parseKey k = some (.complex r') →
      P (.complex r) (.unaryOp .uSub (.constant (.complex r'))))
    (complexPos : ∀ r, P (.complex r) (.constant (.complex r)))
    (v : FVal) (nn : Expr) (h : newNode orc v = some nn) : P v nn := by
  cases v with
  | none => cases h
  | bool b => cases h; exact bool b
  | int n =>
    have h := (Option.ite_none_left_eq_some.mp h).2
    split at h <;> cases h
    · exact intNeg n ‹_›
    · exact intPos n ‹_›
  | float neg mag =>
    cases neg <;> cases h
    · exact floatPos mag
    · exact floatNeg mag
  | complex r =>
    have h := (Option.ite_none_left_eq_some.mp h).2
    split at h
    · split at h
      · rename_i k hk
        split at h
        · rename_i r' hr'
          cases h; exact complexNeg r k r' hk hr'
        · cases h
      · cases h
    · cases h; exact complexPos r

theorem newNode_evalLit (orc : Oracle) (hneg : NegInvolutive orc) : ∀ (v : FVal) (nn : Expr),
    newNode orc v = some nn → evalLit orc nn = some v :=
  newNode_cases orc (P := fun v nn => evalLit orc nn = some v)
    (fun b => by cases b <;> rfl) (fun n _ => congrArg (some ∘ FVal.int) (Int.neg_neg n)) (fun _ _ => rfl)
    (fun _ => rfl) (fun _ => rfl)
    -- a negative complex is spelt as minus the oracle's negation of it: its value is what `NegInvolutive` speaks of
    hneg
    (fun _ => rfl)

section
variable (t : PrecTable) (sp : Spacing) (orc : Oracle)

section
variable (l : Expr) (op : BinOpK) (r : Expr)

/-- The guards of `visit_BinOp`, once: a step leaves the node alone, or it passed every guard (`folded`). An eliminator,
    so that each use names only the guards it needs. -/
theorem foldBinOp_cases {P : Expr → Prop} (same : P (.binOp l op r))
    (folded : ∀ lv rv v nn, operandVal l = some lv → operandVal r = some rv → op ≠ .div → op ≠ .pow →
      evalBin orc op lv rv = some v → isNan v = false → newNode orc v = some nn → reparseOK nn = true →
      (exprText t sp nn).length < (exprText t sp (.binOp l op r)).length → P nn) :
    P (foldBinOp t sp orc l op r) := by
  unfold foldBinOp
  split
  · rename_i lv rv hl hr
    refine iteInduction (fun _ => same) fun hop => ?_
    split
    · exact same
    · rename_i v hv
      refine iteInduction (fun _ => same) fun hnan => ?_
      split
      · exact same
      · rename_i nn hnn
        refine iteInduction (fun _ => same) fun hlen => iteInduction (fun _ => same) fun hre => ?_
        simp only [Bool.or_eq_true, not_or, beq_iff_eq] at hop
        exact folded lv rv v nn hl hr hop.1 hop.2 hv (Bool.eq_false_iff.mpr hnan) hnn (by simpa using hre)
          (Nat.lt_of_not_ge hlen)
  · exact same

theorem foldBinOp_value (hneg : NegInvolutive orc) :
    evalLit orc (foldBinOp t sp orc l op r) = evalLit orc (.binOp l op r) := by
  refine foldBinOp_cases (P := fun x => evalLit orc x = _) t sp orc l op r rfl
    fun lv rv v nn hl hr hd hp hv _ hnn _ _ => ?_
  rw [newNode_evalLit orc hneg v nn hnn, evalLit_binOp, operandVal_evalLit orc l lv hl, operandVal_evalLit orc r rv hr]
  simp [evalBinAll, hd, hp, hv]

theorem foldBinOp_shorter :
    foldBinOp t sp orc l op r = .binOp l op r ∨
    (exprText t sp (foldBinOp t sp orc l op r)).length < (exprText t sp (.binOp l op r)).length :=
  -- the motive is written out in full: left to unification, the length side makes it unfold `exprText`
  foldBinOp_cases (P := fun x => x = .binOp l op r ∨ (exprText t sp x).length < (exprText t sp (.binOp l op r)).length)
    t sp orc l op r (.inl rfl) fun _ _ _ _ _ _ _ _ _ _ _ _ h => .inr h

theorem foldBinOp_le : (exprText t sp (foldBinOp t sp orc l op r)).length ≤ (exprText t sp (.binOp l op r)).length :=
  (foldBinOp_shorter t sp orc l op r).elim (fun h => h ▸ Nat.le_refl _) Nat.le_of_lt

theorem foldBinOp_changed (h : foldBinOp t sp orc l op r ≠ .binOp l op r) :
    ∃ lv rv v, operandVal l = some lv ∧ operandVal r = some rv ∧ op ≠ .div ∧ op ≠ .pow ∧
      evalBin orc op lv rv = some v ∧ isNan v = false ∧ newNode orc v = some (foldBinOp t sp orc l op r) := by
  revert h
  exact foldBinOp_cases (P := fun x => x ≠ _ → ∃ lv rv v, _ ∧ _ ∧ _ ∧ _ ∧ _ ∧ _ ∧ newNode orc v = some x) t sp orc l op r
    (fun h => absurd rfl h) fun lv rv v _ hl hr hd hp hv hn hnn _ _ _ => ⟨lv, rv, v, hl, hr, hd, hp, hv, hn, hnn⟩

end

theorem foldE_value (hneg : NegInvolutive orc) (e : Expr) : evalLit orc (foldE t sp orc e) = evalLit orc e := by
  cases e with
  | binOp l op r =>
    refine (foldBinOp_value t sp orc _ op _ hneg).trans ?_
    rw [evalLit_binOp, evalLit_binOp, foldE_value hneg l, foldE_value hneg r]
  | unaryOp op v =>
    cases op with
    | uSub => exact congrArg (·.bind (negVal orc)) (foldE_value hneg v)
    | _ => rfl
  | _ => rfl

end

end PMV.Fold
