import PMV.Proofs.PyCoreMap
import PMV.Proofs.PyCoreFold
import PMV.Model.Minify
/-
  `ExprMap.mapE f fa` applies `f` to every node after its children.  When `f` touches binary operations only and replaces one
  by something the core cannot tell from it (`StepOK`), and `fa` keeps the plain positional parameters (`ParamsOK`), the map
  is an `ExprOK` (`node_exprOK`).  Constant folding and positional-only conversion are the two instances.
-/
namespace PMV.PyCore
open PMV PMV.Traverse PMV.Fold PMV.Printer PMV.Token

def nodeOf (stepB : Expr → BinOpK → Expr → Expr) : Expr → Expr
  | .binOp l op r => stepB l op r
  | e => e

structure StepOK (stepB : Expr → BinOpK → Expr → Expr) : Prop where
  /-- so that a rewritten node is still no name, no call, no tuple and no comparison -/
  shape : ∀ l op r, stepB l op r = .binOp l op r ∨ (∃ c, stepB l op r = .constant c) ∨
    (∃ c, stepB l op r = .unaryOp .uSub (.constant c))
  step : ∀ s l op r, evalE s (.binOp l op r) ≠ none → evalE s (stepB l op r) = evalE s (.binOp l op r)
  core : ∀ l op r, coreE (stepB l op r) = (coreE l && coreE r)

theorem isDebugTest_compare_left (l : Expr) (ops : List CmpOpK) (cs : List Expr) (h : isDebugTest (.compare l ops cs) = true) :
    ∃ c, l = .name "__debug__" c := by
  unfold isDebugTest at h
  split at h
  · rename_i heq; cases heq
  · rename_i heq; injection heq with h1 _ _; exact ⟨_, h1⟩
  · rename_i heq; injection heq with h1 _ _; exact ⟨_, h1⟩
  · rename_i heq; injection heq with h1 _ _; exact ⟨_, h1⟩
  · simp at h

theorem evalE_debug_compare (s : St) (c : Ctx) (ops : List CmpOpK) (cs : List Expr) :
    evalE s (.compare (.name "__debug__" c) ops cs) = none := by
  match ops, cs with
  | [_], [_] | [], _ | [_], [] | [_], _ :: _ :: _ | _ :: _ :: _, _ => simp [evalE]

section NodeMap
variable {f : Expr → Expr} {fa : Arguments → Arguments} {stepB : Expr → BinOpK → Expr → Expr}

theorem mapL_eq_map : ∀ l : List Expr, ExprMap.mapL f fa l = l.map (ExprMap.mapE f fa)
  | [] => rfl
  | e :: es => congrArg (ExprMap.mapE f fa e :: ·) (mapL_eq_map es)

theorem mapArgs_names : ∀ l : List Arg, (ExprMap.mapArgs f fa l).map argName = l.map argName
  | [] => rfl
  | .mk n _ :: rest => congrArg (n :: ·) (mapArgs_names rest)

theorem mapArgs_plain : ∀ l : List Arg, (ExprMap.mapArgs f fa l).all argPlain = l.all argPlain
  | [] => rfl
  | .mk _ none :: rest => mapArgs_plain rest
  | .mk _ (some _) :: _ => rfl

def ParamsOK (fa : Arguments → Arguments) : Prop :=
  ∀ po as va ko kd kw ds, ∃ po' as', fa (.mk po as va ko kd kw ds) = .mk po' as' va ko kd kw ds ∧ po' ++ as' = po ++ as

theorem node_params (hfa : ParamsOK fa) (a : Arguments) : paramNames (ExprMap.mapArguments f fa a) = paramNames a := by
  obtain ⟨po, as, va, ko, kd, kw, ds⟩ := a
  obtain ⟨po', as', h1, h2⟩ := hfa (ExprMap.mapArgs f fa po) (ExprMap.mapArgs f fa as) (ExprMap.mapOptArg f fa va)
    (ExprMap.mapArgs f fa ko) (ExprMap.mapOL f fa kd) (ExprMap.mapOptArg f fa kw) (ExprMap.mapL f fa ds)
  rw [show ExprMap.mapArguments f fa (.mk po as va ko kd kw ds) = _ from h1]
  -- the other parts are mapped to something empty exactly when they are empty
  match va, ko, kd, kw, ds with
  | none, [], [], none, [] =>
    show paramNames (.mk po' as' none [] [] none []) = _
    simp only [paramNames]
    rw [h2, List.all_append, List.all_append, mapArgs_plain, mapArgs_plain, List.map_append, List.map_append,
      mapArgs_names, mapArgs_names]
  | some _, _, _, _, _ | none, _ :: _, _, _, _ | none, [], _ :: _, _, _ | none, [], [], some _, _ | none, [], [], none, _ :: _ => rfl

variable (hf : ∀ e, f e = nodeOf stepB e) (hs : StepOK stepB)
include hf hs

theorem node_homo : Homo (ExprMap.mapE f fa) stepB where
  const _ := hf _
  name _ _ := hf _
  unary _ _ := hf _
  binOp _ _ _ := hf _
  compare1 _ _ _ := hf _
  boolOp2 _ _ _ := hf _
  ifExp _ _ _ := hf _
  step := hs.step

theorem node_nameOf_eq (e : Expr) : nameOf (ExprMap.mapE f fa e) = nameOf e := by
  cases e with
  | binOp l op r =>
    rw [(node_homo hf hs).binOp]
    rcases hs.shape (ExprMap.mapE f fa l) op (ExprMap.mapE f fa r) with h1 | ⟨c, h1⟩ | ⟨c, h1⟩ <;> rw [h1] <;> rfl
  | _ => exact (congrArg nameOf (hf _) :)

theorem node_asNameCall (e : Expr) (h : asNameCall e = none) : asNameCall (ExprMap.mapE f fa e) = none := by
  cases e with
  | call fn args ks =>
    rw [show ExprMap.mapE f fa (.call fn args ks) = .call _ _ _ from hf _, asNameCall_call, node_nameOf_eq hf hs]
    rw [asNameCall_call] at h
    cases hfn : nameOf fn with
    | none => rfl
    | some p =>
      rw [hfn] at h
      cases ks with
      | nil => cases h
      | cons k rest => cases k; rfl
  | binOp l op r =>
    rw [(node_homo hf hs).binOp]
    rcases hs.shape (ExprMap.mapE f fa l) op (ExprMap.mapE f fa r) with h1 | ⟨c, h1⟩ | ⟨c, h1⟩ <;> rw [h1] <;> rfl
  | _ => exact (congrArg asNameCall (hf _) :)

theorem node_notTuple (e : Expr) (h : isTuple e = false) : isTuple (ExprMap.mapE f fa e) = false := by
  cases e with
  | tuple => cases h
  | binOp l op r =>
    rw [(node_homo hf hs).binOp]
    rcases hs.shape (ExprMap.mapE f fa l) op (ExprMap.mapE f fa r) with h1 | ⟨c, h1⟩ | ⟨c, h1⟩ <;> rw [h1] <;> rfl
  | _ => exact (congrArg isTuple (hf _) :)

theorem node_dbgCmp (e : Expr) :
    debugCmp (ExprMap.mapE f fa e) = (debugCmp e).map (fun p => (p.1, ExprMap.mapE f fa p.2)) := by
  cases e with
  | compare l ops cs =>
    rw [show ExprMap.mapE f fa (.compare l ops cs) = .compare _ ops _ from hf _, mapL_eq_map]
    exact debugCmp_map _ ops cs (by rw [isDbgName_eq, isDbgName_eq, node_nameOf_eq hf hs])
  | binOp l op r =>
    rw [(node_homo hf hs).binOp]
    rcases hs.shape (ExprMap.mapE f fa l) op (ExprMap.mapE f fa r) with h | ⟨c, h⟩ | ⟨c, h⟩ <;> rw [h] <;> rfl
  | _ => exact (congrArg debugCmp (hf _) :)

theorem node_coreE : (e : Expr) → coreE (ExprMap.mapE f fa e) = coreE e
  | .unaryOp op v => by rw [(node_homo hf hs).unary]; exact node_coreE v
  | .binOp l op r => by rw [(node_homo hf hs).binOp, hs.core, node_coreE l, node_coreE r]; rfl
  | .compare l [op] [r] => by
    rw [(node_homo hf hs).compare1]
    show (coreE _ && coreE _) = _
    rw [node_coreE l, node_coreE r]; rfl
  | .boolOp op [a, b] => by
    rw [(node_homo hf hs).boolOp2]
    show (coreE _ && coreE _) = _
    rw [node_coreE a, node_coreE b]; rfl
  | .ifExp c a b => by
    rw [(node_homo hf hs).ifExp]
    show (coreE _ && coreE _ && coreE _) = _
    rw [node_coreE c, node_coreE a, node_coreE b]; rfl
  | .constant _ | .name .. | .compare _ [] _ | .compare _ [_] [] | .compare _ [_] (_ :: _ :: _) | .compare _ (_ :: _ :: _) _
  | .boolOp _ [] | .boolOp _ [_] | .boolOp _ (_ :: _ :: _ :: _)
  | .namedExpr .. | .lambda .. | .dict .. | .set _ | .listComp .. | .setComp .. | .dictComp .. | .generatorExp .. | .await ..
  | .yield .. | .yieldFrom .. | .call .. | .joinedStr .. | .attribute .. | .subscript .. | .starred .. | .list .. | .tuple ..
  | .slice .. | .paren .. => (congrArg coreE (hf _) :)

theorem node_exprOK (hfa : ParamsOK fa) (b : Bool) : ExprOK ⟨ExprMap.mapE f fa, ExprMap.mapArguments f fa, b⟩ where
  evalOK := fun s e h => homo_evalE _ _ (node_homo hf hs) s e h
  name := fun _ _ => hf _
  const := fun e h => by
    cases e with
    | constant => exact hf _
    | _ => cases h
  call := fun g c args => (hf _).trans (congr (congrArg (Expr.call · · []) (hf _)) (mapL_eq_map args))
  notCall := node_asNameCall hf hs
  notName := fun e h => (node_nameOf_eq hf hs e).trans h
  params := node_params hfa
  handlerTy := fun ty => by
    cases ty with
    | none => rfl
    | some e =>
      exact excKind_map _ (node_nameOf_eq hf hs) (fun es => (hf _).trans (congrArg Expr.tuple (mapL_eq_map es))) (node_notTuple hf hs) e
  dbgCmp := node_dbgCmp hf hs
  core := node_coreE hf hs

end NodeMap

section
variable (t : PrecTable) (sp : Spacing) (orc : Oracle)

-- by definition both sides are the same constructor, on the folded and on the mapped children
mutual
theorem foldE_eq : ∀ e : Expr, foldE t sp orc e = ExprMap.mapE (nodeOf (foldBinOp t sp orc)) id e
  | .boolOp op vs => congrArg (Expr.boolOp op) (foldL_eq vs)
  | .namedExpr tg v => by show Expr.namedExpr _ _ = Expr.namedExpr _ _; rw [foldE_eq tg, foldE_eq v]
  | .binOp l op r => by show foldBinOp t sp orc _ op _ = foldBinOp t sp orc _ op _; rw [foldE_eq l, foldE_eq r]
  | .unaryOp op v => congrArg (Expr.unaryOp op) (foldE_eq v)
  | .lambda a b => by show Expr.lambda _ _ = Expr.lambda _ _; rw [foldArguments_eq a, foldE_eq b]
  | .ifExp c b o => by show Expr.ifExp _ _ _ = Expr.ifExp _ _ _; rw [foldE_eq c, foldE_eq b, foldE_eq o]
  | .dict ks vs => by show Expr.dict _ _ = Expr.dict _ _; rw [foldOL_eq ks, foldL_eq vs]
  | .set es => congrArg Expr.set (foldL_eq es)
  | .listComp e gs => by show Expr.listComp _ _ = Expr.listComp _ _; rw [foldE_eq e, foldComps_eq gs]
  | .setComp e gs => by show Expr.setComp _ _ = Expr.setComp _ _; rw [foldE_eq e, foldComps_eq gs]
  | .dictComp k v gs => by show Expr.dictComp _ _ _ = Expr.dictComp _ _ _; rw [foldE_eq k, foldE_eq v, foldComps_eq gs]
  | .generatorExp e gs => by show Expr.generatorExp _ _ = Expr.generatorExp _ _; rw [foldE_eq e, foldComps_eq gs]
  | .await v => congrArg Expr.await (foldE_eq v)
  | .yield v => congrArg Expr.yield (foldO_eq v)
  | .yieldFrom v => congrArg Expr.yieldFrom (foldE_eq v)
  | .compare l ops cs => by show Expr.compare _ ops _ = Expr.compare _ ops _; rw [foldE_eq l, foldL_eq cs]
  | .call fn as ks => by show Expr.call _ _ _ = Expr.call _ _ _; rw [foldE_eq fn, foldL_eq as, foldKeywords_eq ks]
  | .joinedStr .. | .constant _ | .name .. => rfl
  | .attribute v a => congrArg (Expr.attribute · a) (foldE_eq v)
  | .subscript v s => by show Expr.subscript _ _ = Expr.subscript _ _; rw [foldE_eq v, foldE_eq s]
  | .starred v => congrArg Expr.starred (foldE_eq v)
  | .list es => congrArg Expr.list (foldL_eq es)
  | .tuple es => congrArg Expr.tuple (foldL_eq es)
  | .slice l u s => by show Expr.slice _ _ _ = Expr.slice _ _ _; rw [foldO_eq l, foldO_eq u, foldO_eq s]
  | .paren e => congrArg Expr.paren (foldE_eq e)
theorem foldL_eq : ∀ l : List Expr, foldL t sp orc l = ExprMap.mapL (nodeOf (foldBinOp t sp orc)) id l
  | [] => rfl
  | e :: es => by show _ :: _ = _ :: _; rw [foldE_eq e, foldL_eq es]
theorem foldO_eq : ∀ o : Option Expr, foldO t sp orc o = ExprMap.mapO (nodeOf (foldBinOp t sp orc)) id o
  | none => rfl
  | some e => congrArg some (foldE_eq e)
theorem foldOL_eq : ∀ l : List (Option Expr), foldOL t sp orc l = ExprMap.mapOL (nodeOf (foldBinOp t sp orc)) id l
  | [] => rfl
  | e :: es => by show _ :: _ = _ :: _; rw [foldO_eq e, foldOL_eq es]
theorem foldKeywords_eq : ∀ ks : List Keyword, foldKeywords t sp orc ks = ExprMap.mapKeywords (nodeOf (foldBinOp t sp orc)) id ks
  | [] => rfl
  | .mk a v :: ks => by show Keyword.mk a _ :: _ = Keyword.mk a _ :: _; rw [foldE_eq v, foldKeywords_eq ks]
theorem foldComps_eq : ∀ gs : List Comprehension, foldComps t sp orc gs = ExprMap.mapComps (nodeOf (foldBinOp t sp orc)) id gs
  | [] => rfl
  | .mk tg it ifs a :: gs => by
    show Comprehension.mk _ _ _ a :: _ = Comprehension.mk _ _ _ a :: _
    rw [foldE_eq tg, foldE_eq it, foldL_eq ifs, foldComps_eq gs]
theorem foldArg_eq : ∀ a : Arg, foldArg t sp orc a = ExprMap.mapArg (nodeOf (foldBinOp t sp orc)) id a
  | .mk a ann => congrArg (Arg.mk a) (foldO_eq ann)
theorem foldArgs_eq : ∀ l : List Arg, foldArgs t sp orc l = ExprMap.mapArgs (nodeOf (foldBinOp t sp orc)) id l
  | [] => rfl
  | a :: as => by show _ :: _ = _ :: _; rw [foldArg_eq a, foldArgs_eq as]
theorem foldOptArg_eq : ∀ a : Option Arg, foldOptArg t sp orc a = ExprMap.mapOptArg (nodeOf (foldBinOp t sp orc)) id a
  | none => rfl
  | some a => congrArg some (foldArg_eq a)
theorem foldArguments_eq : ∀ a : Arguments, foldArguments t sp orc a = ExprMap.mapArguments (nodeOf (foldBinOp t sp orc)) id a
  | .mk po as va ko kd kw ds => by
    show Arguments.mk _ _ _ _ _ _ _ = Arguments.mk _ _ _ _ _ _ _
    rw [foldArgs_eq po, foldArgs_eq as, foldOptArg_eq va, foldArgs_eq ko, foldOL_eq kd, foldOptArg_eq kw, foldL_eq ds]
end

def foldMap : ExprMap := ⟨foldE t sp orc, foldArguments t sp orc, false⟩

theorem fold_exprOK : ExprOK (foldMap t sp orc) := by
  have : foldMap t sp orc = ⟨ExprMap.mapE (nodeOf (foldBinOp t sp orc)) id, ExprMap.mapArguments (nodeOf (foldBinOp t sp orc)) id, false⟩ := by
    unfold foldMap; congr 1 <;> funext x
    · exact foldE_eq t sp orc x
    · exact foldArguments_eq t sp orc x
  rw [this]
  exact node_exprOK (fun _ => rfl) ⟨foldBinOp_shape t sp orc, fold_step t sp orc, foldBinOp_core t sp orc⟩
    (fun po as _ _ _ _ _ => ⟨po, as, rfl, rfl⟩) false

end

/-- T01.7 (expressions): folding preserves the result — value or exception — of every expression the core gives one to, at
    any nesting depth and for any oracle. -/
theorem foldE_evalE (t : PrecTable) (sp : Spacing) (orc : Oracle) (s : St) (e : Expr) (h : evalE s e ≠ none) :
    evalE s (foldE t sp orc e) = evalE s e :=
  (fold_exprOK t sp orc).evalOK s e h

open PMV.Transforms in
def posMap : ExprMap := ⟨ExprMap.mapE id mergePosonly, ExprMap.mapArguments id mergePosonly, true⟩

open PMV.Transforms in
theorem pos_exprOK : ExprOK posMap :=
  node_exprOK (stepB := fun l op r => .binOp l op r) (fun e => by cases e <;> rfl)
    ⟨fun _ _ _ => Or.inl rfl, fun _ _ _ _ _ => rfl, fun _ _ _ => rfl⟩
    (fun po as _ _ _ _ _ => ⟨[], po ++ as, rfl, rfl⟩) true

theorem run_removePosargs (n : Nat) (md : Module) (hcore : (run n md).ending ≠ "stuck") :
    run n (Transforms.removePosargs md) = run n md :=
  run_map posMap pos_exprOK n md hcore

end PMV.PyCore
