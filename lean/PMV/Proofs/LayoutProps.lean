import PMV.Proofs.LayoutSpec
import PMV.Proofs.LayoutRun
/- What `Tidy`, `Ind`, `Flat0` say of the printed text is told at `C02.layout_tidy`, `C02.layout_indentation`, `C02.layout_brackets`. -/
namespace PMV.Spec.Layout
open PMV PMV.Token PMV.Printer

/-- non-empty, first and last are real tokens, no two adjacent layout tokens.  `tl`: after a real token one arbitrary token,
    then a tidy list — which starts with a real token, so two layout tokens never meet -/
inductive Tidy : List LT → Prop
  | one (tok : Tok) : Tidy [.t tok]
  | tt (tok : Tok) {l : List LT} : Tidy l → Tidy (.t tok :: l)
  | tl (tok : Tok) (x : LT) {l : List LT} : Tidy l → Tidy (.t tok :: x :: l)

theorem Tidy.ne_nil {l : List LT} (h : Tidy l) : l ≠ [] := by cases h <;> simp

/-- a tidy list ends with a real token: what may follow one may follow it -/
theorem Tidy.append_of {a c : List LT} (ha : Tidy a) (hc : ∀ tok, Tidy (.t tok :: c)) : Tidy (a ++ c) := by
  induction ha with
  | one tok => exact hc tok
  | tt tok _ ih => exact .tt tok ih
  | tl tok x _ ih => exact .tl tok x ih

theorem Tidy.append {a b : List LT} (ha : Tidy a) (hb : Tidy b) : Tidy (a ++ b) := ha.append_of fun tok => .tt tok hb

theorem Tidy.sep {a b : List LT} (ha : Tidy a) (x : LT) (hb : Tidy b) : Tidy (a ++ x :: b) := ha.append_of fun tok => .tl tok x hb

theorem Tidy_T {xs : List Tok} (h : xs ≠ []) : Tidy (T xs) := by
  induction xs with
  | nil => exact absurd rfl h
  | cons x rest ih =>
    cases rest with
    | nil => exact .one x
    | cons y r => exact .tt x (ih (by simp))

theorem tidy_first {l : List LT} (h : Tidy l) : ∃ tok rest, l = .t tok :: rest := by
  cases h <;> exact ⟨_, _, rfl⟩

theorem tidy_last {l : List LT} (h : Tidy l) : EndsT l := by
  induction h with
  | one tok => exact ⟨[], tok, rfl⟩
  | tt tok _ ih => exact EndsT.cons _ ih
  | tl tok x _ ih => exact EndsT.cons _ (EndsT.cons _ ih)

def noAdj : List LT → Bool
  | a :: b :: rest => !(a.isLay && b.isLay) && noAdj (b :: rest)
  | _ => true

theorem tidy_noAdj {l : List LT} (h : Tidy l) : noAdj l = true := by
  induction h with
  | one tok => rfl
  | tt tok hl ih | tl tok x hl ih =>
    obtain ⟨t2, r, rfl⟩ := tidy_first hl
    simp [noAdj, LT.isLay, ih]

def isColon : Option LT → Bool
  | some (.t (.delim ":")) => true
  | _ => false

/-- run over the layout: current depth and last token; `none` when a line break goes deeper without a colon before it -/
def indRun : Nat × Option LT → List LT → Option (Nat × Option LT)
  | s, [] => some s
  | (cur, last), .nl k :: rest =>
    if k ≤ cur || (k == cur + 1 && isColon last) then indRun (k, some (.nl k)) rest else none
  | (cur, _), .t tok :: rest => indRun (cur, some (.t tok)) rest
  | (cur, _), .semi :: rest => indRun (cur, some .semi) rest

theorem indRun_append (s : Nat × Option LT) (a b : List LT) : indRun s (a ++ b) = (indRun s a).bind fun s' => indRun s' b := by
  induction a generalizing s with
  | nil => simp [indRun]
  | cons x rest ih =>
    obtain ⟨cur, last⟩ := s
    cases x with
    | nl k =>
      simp only [List.cons_append, indRun]
      split
      · exact ih _
      · rfl
    | t _ | semi => simp only [List.cons_append, indRun]; exact ih _

theorem indRun_T (xs : List Tok) (cur : Nat) (last : Option LT) :
    indRun (cur, last) (T xs) = some (cur, if xs = [] then last else xs.getLast?.map .t) := by
  induction xs generalizing last with
  | nil => simp [T, indRun]
  | cons x rest ih =>
    rw [T_cons, indRun, ih]
    cases rest with
    | nil => simp
    | cons y r => simp [List.getLast?_cons_cons]

def Ind (d : Nat) (l : List LT) : Prop :=
  ∀ cur last, d ≤ cur → ∃ c x, indRun (cur, last) l = some (c, x) ∧ d ≤ c

theorem Ind.nil (d : Nat) : Ind d [] := fun cur last h => ⟨cur, last, by simp [indRun], h⟩

theorem Ind.append {d : Nat} {a b : List LT} (ha : Ind d a) (hb : Ind d b) : Ind d (a ++ b) := by
  intro cur last h
  obtain ⟨c1, x1, e1, h1⟩ := ha cur last h
  obtain ⟨c2, x2, e2, h2⟩ := hb c1 x1 h1
  exact ⟨c2, x2, by rw [indRun_append, e1]; simpa using e2, h2⟩

theorem Ind_T (d : Nat) (xs : List Tok) : Ind d (T xs) := fun cur last h => ⟨cur, _, indRun_T xs cur last, h⟩

theorem Ind_semi (d : Nat) : Ind d [LT.semi] := fun cur _ h => ⟨cur, some .semi, by simp [indRun], h⟩

theorem Ind.cons_nl {d : Nat} {b : List LT} (hb : Ind d b) : Ind d (LT.nl d :: b) :=
  Ind.append (a := [.nl d]) (fun _ _ h => ⟨d, some (.nl d), by simp [indRun, h], Nat.le_refl d⟩) hb

theorem Ind_block (d : Nat) (hdr : List Tok) (hcolon : hdr.getLast? = some (.delim ":")) {b : List LT} (hb : Ind (d + 1) b) :
    Ind d (T hdr ++ LT.nl (d + 1) :: b) := by
  intro cur last h
  have e1 := indRun_T hdr cur last
  simp only [ne_nil_of_getLast? hcolon, if_false, hcolon, Option.map_some] at e1
  have hstep : indRun (cur, some (LT.t (.delim ":"))) (LT.nl (d + 1) :: b) = indRun (d + 1, some (.nl (d + 1))) b := by
    simp only [indRun]
    have : (d + 1 ≤ cur || (d + 1 == cur + 1 && isColon (some (LT.t (.delim ":"))))) = true := by
      simp [isColon]; omega
    rw [this]; rfl
  obtain ⟨c2, x2, e2, h2⟩ := hb (d + 1) (some (.nl (d + 1))) (Nat.le_refl _)
  exact ⟨c2, x2, by rw [indRun_append, e1]; simp only [Option.bind_some, hstep, e2], by omega⟩

def noNl (l : List LT) : Bool := l.all fun x => !(x matches .nl _)

theorem Ind_of_noNl (d : Nat) : (l : List LT) → noNl l = true → Ind d l
  | [] => fun _ => Ind.nil d
  | .nl _ :: _ => fun h => nomatch h
  | .t tok :: rest => fun h => (Ind_T d [tok]).append (Ind_of_noNl d rest h)
  | .semi :: rest => fun h => (Ind_semi d).append (Ind_of_noNl d rest h)

theorem inline_noNl (t : PrecTable) (st : StmtTable) (d : Nat) : (body : List Stmt) → body.any isCompoundSyn = false →
    noNl (emitBody t st (d + 1) body) = true
  | [] => fun _ => rfl
  | s :: ss => fun h => by
    simp only [List.any_cons, Bool.or_eq_false_iff] at h
    have ih := inline_noNl t st d ss h.2
    unfold noNl at ih ⊢
    rw [emitBody_cons, List.all_append, emitS_simple t st s h.1]
    cases ss with
    | nil => simp [T]
    | cons b r =>
      simp only [List.any_cons, Bool.or_eq_false_iff] at h
      have : sepNext (d + 1) s (b :: r) = .semi := by simp [sepNext, sep, h.1, h.2.1]
      simp [T, this, ih]

def bracketStep (d : Nat) : Tok → Option Nat
  | .delim "(" => some (d + 1)
  | .delim "[" => some (d + 1)
  | .delim "{" => some (d + 1)
  | .delim ")" => if d = 0 then none else some (d - 1)
  | .delim "]" => if d = 0 then none else some (d - 1)
  | .delim "}" => if d = 0 then none else some (d - 1)
  | _ => some d

theorem bracketStep_tok (d : Nat) (t : Tok) (h : ∀ s, t ≠ .delim s) : bracketStep d t = some d := by
  cases t with
  | delim s => exact absurd rfl (h s)
  | _ => rfl

theorem bracketStep_plain (d : Nat) (s : String) (h : s ≠ "(" ∧ s ≠ ")" ∧ s ≠ "[" ∧ s ≠ "]" ∧ s ≠ "{" ∧ s ≠ "}") :
    bracketStep d (.delim s) = some d := by
  simp [bracketStep, h]

/-- bracket depth along a layout: a line break or `;` is allowed at depth 0 only -/
def depthL : Nat → List LT → Option Nat
  | d, [] => some d
  | d, .t tok :: rest => (bracketStep d tok).bind fun d' => depthL d' rest
  | d, _ :: rest => if d = 0 then depthL 0 rest else none

theorem depthL_append (d : Nat) (a b : List LT) : depthL d (a ++ b) = (depthL d a).bind fun d' => depthL d' b := by
  induction a generalizing d with
  | nil => simp [depthL]
  | cons x xs ih =>
    cases x with
    | t tok =>
      simp only [List.cons_append, depthL]
      cases bracketStep d tok with
      | none => rfl
      | some d' => simpa using ih d'
    | nl _ | semi =>
      simp only [List.cons_append, depthL]
      split
      · exact ih 0
      · rfl

theorem depthL_bal {xs : List Tok} (h : Bal xs) : ∀ d, depthL d (T xs) = some d := by
  induction h with
  | nil => intro d; rfl
  | tok t ht => intro d; simp [T, depthL, bracketStep_tok d t ht]
  | delim s hs => intro d; simp [T, depthL, bracketStep_plain d s hs]
  | paren _ ih | brack _ ih | brace _ ih =>
    intro d
    simp [T_nil, T_cons, T_append, depthL, bracketStep, depthL_append, ih (d + 1)]
  | append _ _ iha ihb =>
    intro d
    rw [T_append, depthL_append, iha d]; exact ihb d

def Flat0 (l : List LT) : Prop := depthL 0 l = some 0

theorem Flat0.nil : Flat0 [] := rfl
theorem Flat0.append {a b : List LT} (ha : Flat0 a) (hb : Flat0 b) : Flat0 (a ++ b) := by
  unfold Flat0 at *; rw [depthL_append, ha]; simpa using hb
theorem Flat0_T {xs : List Tok} (h : Bal xs) : Flat0 (T xs) := depthL_bal h 0
theorem Flat0.cons_nl {b : List LT} (d : Nat) (hb : Flat0 b) : Flat0 (LT.nl d :: b) := by
  unfold Flat0 at *; simpa [depthL] using hb
theorem Flat0_lay (x : LT) (hx : x.isLay = true) : Flat0 [x] := by
  cases x <;> simp [LT.isLay] at hx <;> rfl

end PMV.Spec.Layout
