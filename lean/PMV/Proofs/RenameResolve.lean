import PMV.Model.Rename
/-
  T03.4: from "no new clash inside reservation scopes" to "every name still resolves to its binding", for any assignment of final
  names (`rs`), not only the assigner's.
-/
namespace PMV.Rename

/-- does scope `a` bind `x` before renaming (`orig`) / after renaming (`fin`) -/
def bindsOrig (rs : List Result) (a : Ns) (x : String) : Bool :=
  rs.any fun r => r.b.home == a && r.b.name == some x

def bindsFinal (rs : List Result) (a : Ns) (x : String) : Bool :=
  rs.any fun r => r.b.home == a && r.final == some x

/-- Python name lookup: the first scope on the lookup path that binds the name -/
def resolveOrig (rs : List Result) (path : List Ns) (x : String) : Option Ns := path.find? fun a => bindsOrig rs a x
def resolveFinal (rs : List Result) (path : List Ns) (x : String) : Option Ns := path.find? fun a => bindsFinal rs a x

theorem bindsOrig_iff {rs : List Result} {a : Ns} {x : String} :
    bindsOrig rs a x = true ↔ ∃ r ∈ rs, r.b.home = a ∧ r.b.name = some x := by simp [bindsOrig]

theorem bindsFinal_iff {rs : List Result} {a : Ns} {x : String} :
    bindsFinal rs a x = true ↔ ∃ r ∈ rs, r.b.home = a ∧ r.final = some x := by simp [bindsFinal]

theorem find?_split {α : Type} {p : α → Bool} {l : List α} {a : α} (h : l.find? p = some a) :
    p a = true ∧ ∃ rest, l = l.takeWhile (fun x => !p x) ++ a :: rest := by
  obtain ⟨hp, skipped, rest, rfl, hs⟩ := List.find?_eq_some_iff_append.mp h
  refine ⟨hp, rest, ?_⟩
  rw [List.takeWhile_append_of_pos hs, List.takeWhile_cons_of_neg (by simp [hp]), List.append_nil]

theorem find?_eq_of_prefix {α : Type} {p q : α → Bool} {a : α} {l : List α} (h : l.find? p = some a) (hq : q a = true)
    (hpre : ∀ x ∈ l.takeWhile (fun y => !p y), q x = false) : l.find? q = some a := by
  obtain ⟨_, rest, e⟩ := find?_split h
  rw [e, List.find?_append, List.find?_eq_none.mpr (by simpa using hpre), Option.none_or, List.find?_cons_of_pos hq]

/-- T03.4 -/
theorem renaming_preserves_resolution (rs : List Result) (path : List Ns) (r : Result) (x : String)
    (hr : r ∈ rs) (hname : r.b.name = some x) (y : String) (hfin : r.final = some y)
    (horig : resolveOrig rs path x = some r.b.home)
    -- the reservation scope covers the lookup path below the home scope
    (cover : ∀ a ∈ path.takeWhile (fun a => !bindsOrig rs a x), a ∈ r.b.scope)
    -- the assigner's guarantee (C03.no_new_clash, for non-exhausted results and in both orders), for bindings homed elsewhere
    (clash : ∀ r' ∈ rs, r'.b.home ≠ r.b.home → (r.renamed = true ∨ r'.renamed = true) → (∃ ns, ns ∈ r.b.scope ∧ ns ∈ r'.b.scope) → r'.final ≠ r.final)
    -- a binding that was not renamed keeps its spelling (every result of the loop: `decide1_spec`)
    (kept : ∀ r' ∈ rs, r'.renamed = false → r'.final = r'.b.name)
    (homeIn : ∀ r' ∈ rs, r'.b.home ∈ r'.b.scope) :
    resolveFinal rs path y = some r.b.home := by
  -- the home scope still binds the final name; nothing below the home captures it
  refine find?_eq_of_prefix horig (bindsFinal_iff.mpr ⟨r, hr, rfl, hfin⟩) fun a ha => Bool.eq_false_iff.mpr fun hany => ?_
  obtain ⟨r', hr', rfl, hfin'⟩ := bindsFinal_iff.mp hany
  -- the home of `r'` does not bind `x` before renaming
  have hnob : ∀ r'' ∈ rs, r''.b.home = r'.b.home → r''.b.name ≠ some x := fun r'' h'' hh hn =>
    Bool.eq_false_iff.mp (by simpa using List.all_eq_true.mp List.all_takeWhile _ ha) (bindsOrig_iff.mpr ⟨r'', h'', hh, hn⟩)
  by_cases hren : r.renamed = true ∨ r'.renamed = true
  · -- the home of `r` binds `x`, so it is another scope, and `clash` applies
    exact clash r' hr' (fun he => hnob r hr he.symm hname) hren ⟨_, cover _ ha, homeIn r' hr'⟩ (hfin'.trans hfin.symm)
  · -- both kept: `r'` would have bound `x` there already
    rw [not_or, Bool.not_eq_true, Bool.not_eq_true] at hren
    exact hnob r' hr' rfl (by rw [← kept r' hr' hren.2, hfin', ← hfin, kept r hr hren.1, hname])

end PMV.Rename
