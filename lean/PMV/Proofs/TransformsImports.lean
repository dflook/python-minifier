import PMV.Proofs.TransformsMap
/-
  C05, combine_imports: merging adjacent import statements keeps the sequence of imported names (`flattenImports`, `flatFrom`:
  the statements split back into single-name imports), and so leaves the canonical form, which splits them too, unchanged.
-/
namespace PMV.Transforms
open PMV PMV.Spec.Rewrites

theorem flatten_combineImport : ∀ b : List Stmt, flattenImports (combineImport b) = flattenImports b
  | [] => rfl
  | s :: rest => by
    have ih := flatten_combineImport rest
    cases s with
    | import_ a =>
      simp only [combineImport]
      split
      · rename_i b rest' heq
        rw [heq] at ih
        simp only [flattenImports, List.map_append, List.append_assoc] at ih ⊢
        rw [ih]
      · simp only [flattenImports, ih]
    | _ => simp only [combineImport, flattenImports, ih]

def singles (prev : Option (Option String × Nat)) (acc : List Alias) : List Stmt :=
  match prev with
  | some (m, l) => acc.map (fun x => Stmt.importFrom m [x] l)
  | none => []

theorem flatFrom_append (a b : List Stmt) : flatFrom (a ++ b) = flatFrom a ++ flatFrom b := by
  induction a with
  | nil => rfl
  | cons s ss ih => simp [flatFrom, ih]

theorem flatFrom_flush (prev : Option (Option String × Nat)) (acc : List Alias) :
    flatFrom (flushFrom prev acc) = singles prev acc := by
  cases prev with
  | none => rfl
  | some ml => obtain ⟨m, l⟩ := ml; cases acc <;> simp [flushFrom, flatFrom, singles, asImportFrom]

theorem flatFrom_combineFromAux : ∀ (b : List Stmt) (prev : Option (Option String × Nat)) (acc : List Alias),
    (acc ≠ [] → prev.isSome = true) → flatFrom (combineFromAux prev acc b) = singles prev acc ++ flatFrom b := by
  intro b
  induction b with
  | nil => intro prev acc _; simp [combineFromAux, flatFrom_flush, flatFrom]
  | cons s rest ih =>
    intro prev acc h
    -- a statement that is not taken into the group closes it
    have hflush : flatFrom (flushFrom prev acc ++ s :: combineFromAux prev [] rest) = singles prev acc ++ flatFrom (s :: rest) := by
      simp only [flatFrom_append, flatFrom_flush, flatFrom]
      rw [ih prev [] (by simp)]
      cases prev <;> simp [singles]
    simp only [combineFromAux]
    cases hs : asImportFrom s with
    | none => exact hflush
    | some mal =>
      obtain ⟨m, a, l⟩ := mal
      simp only
      by_cases hok : groupOK prev m a l = true
      · rw [if_pos hok, ih (some (m, l)) (acc ++ a) (by simp)]
        simp only [flatFrom, hs]
        unfold groupOK at hok
        simp only [Bool.and_eq_true, Bool.not_eq_true'] at hok
        cases prev with
        | none =>
          have : acc = [] := Decidable.byContradiction fun ha => by simpa using h ha
          subst this; simp [singles]
        | some ml' =>
          obtain ⟨m', l'⟩ := ml'
          have h2 := hok.2
          simp only [Bool.and_eq_true, beq_iff_eq] at h2
          obtain ⟨rfl, rfl⟩ := h2
          simp [singles, List.map_append]
      · rw [if_neg hok]; exact hflush

theorem flatFrom_combineFrom (b : List Stmt) : flatFrom (combineFrom b) = flatFrom b := by
  unfold combineFrom
  rw [flatFrom_combineFromAux b none [] (by simp)]
  simp [singles]

def ImpOnly : COpts := { imports := true }

theorem cSuite_impOnly (fb : Bool) (b : List Stmt) : cSuite ImpOnly fb b = b.flatMap (splitImport ImpOnly) := by
  have h3 : (fun s => !dropStmt ImpOnly s) = (fun _ => true) := by
    funext s; simp [dropStmt, ImpOnly, COpts.placeholders]
  have h4 : ∀ l : List Stmt, l.filter (fun _ => true) = l := fun l => by simp
  simp only [cSuite, flatMap_debugSplice ImpOnly rfl, h3, h4]
  simp [ImpOnly]

theorem combineImport_merge (a b : List Alias) (rest t : List Stmt) (h : combineImport rest = .import_ b :: t) :
    combineImport (.import_ a :: rest) = .import_ (a ++ b) :: t := by
  simp only [combineImport, h]

theorem combineImport_keep (a : List Alias) (rest : List Stmt) (h : ∀ b t, combineImport rest ≠ .import_ b :: t) :
    combineImport (.import_ a :: rest) = .import_ a :: combineImport rest := by
  cases hc : combineImport rest with
  | nil => simp only [combineImport, hc]
  | cons x t =>
    cases x with
    | import_ b => exact absurd hc (h b t)
    | _ => simp only [combineImport, hc]

theorem combineImport_other (s : Stmt) (rest : List Stmt) (h : ∀ a, s ≠ .import_ a) : combineImport (s :: rest) = s :: combineImport rest := by
  cases s with
  | import_ a => exact absurd rfl (h a)
  | _ => rfl

theorem asImportFrom_some {s : Stmt} {m : Option String} {a : List Alias} {l : Nat} (h : asImportFrom s = some (m, a, l)) :
    s = .importFrom m a l := by
  cases s with
  | importFrom m' a' l' => cases h; rfl
  | _ => cases h

theorem flatFrom_singles (ns : List Alias) : flatFrom (ns.map (fun a => Stmt.import_ [a])) = ns.map (fun a => Stmt.import_ [a]) := by
  induction ns with
  | nil => rfl
  | cons a as ih => simp only [List.map_cons, flatFrom, asImportFrom, ih, List.singleton_append]

theorem flattenImports_append (a b : List Stmt) : flattenImports (a ++ b) = flattenImports a ++ flattenImports b := by
  induction a with
  | nil => rfl
  | cons x xs ih =>
    cases x with
    | import_ ns => simp only [List.cons_append, flattenImports, ih, List.append_assoc]
    | _ => exact congrArg (_ :: ·) ih

theorem flatten_fromSingles (m : Option String) (l : Nat) (ns : List Alias) :
    flattenImports (ns.map (fun x => Stmt.importFrom m [x] l)) = ns.map (fun x => Stmt.importFrom m [x] l) := by
  induction ns with
  | nil => rfl
  | cons a as ih => simp only [List.map_cons, flattenImports, ih]

theorem split_eq_flatFrom_flatten : (b : List Stmt) → b.flatMap (splitImport ImpOnly) = flatFrom (flattenImports b)
  | [] => rfl
  | s :: rest => by
    have ih := split_eq_flatFrom_flatten rest
    rw [List.flatMap_cons, ih]
    cases s with
    | import_ ns =>
      have : splitImport ImpOnly (.import_ ns) = ns.map (fun a => Stmt.import_ [a]) := rfl
      rw [this, flattenImports, flatFrom_append, flatFrom_singles]
    | importFrom m ns l =>
      have : splitImport ImpOnly (.importFrom m ns l) = ns.map (fun a => Stmt.importFrom m [a] l) := rfl
      rw [this]; rfl
    | _ => rfl

theorem flatFrom_flattenImports : (b : List Stmt) → flatFrom (flattenImports b) = flattenImports (flatFrom b)
  | [] => rfl
  | s :: rest => by
    have ih := flatFrom_flattenImports rest
    cases s with
    | import_ ns => rw [flattenImports, flatFrom_append, flatFrom_singles, ih]; rfl
    | importFrom m ns l =>
      show _ = flattenImports (ns.map (fun x => Stmt.importFrom m [x] l) ++ flatFrom rest)
      rw [flattenImports_append, flatten_fromSingles, ← ih]; rfl
    | _ => exact congrArg (_ :: ·) ih

/-- whatever takes the single-alias statements for the import statement they come from does not see a statement split -/
theorem splitImport_invariant {α : Sort _} (P : List Stmt → α)
    (hi : ∀ names, P (names.map fun a => .import_ [a]) = P [.import_ names])
    (hf : ∀ m names l, P (names.map fun a => .importFrom m [a] l) = P [.importFrom m names l]) (st : Stmt) :
    P (splitImport ImpOnly st) = P [st] := by
  cases st with
  | import_ => exact hi _
  | importFrom => exact hf ..
  | _ => rfl

/-- each merge is undone by the split of its own kind -/
theorem split_combine (b : List Stmt) :
    (combineFrom (combineImport b)).flatMap (splitImport ImpOnly) = b.flatMap (splitImport ImpOnly) := by
  rw [split_eq_flatFrom_flatten, flatFrom_flattenImports, flatFrom_combineFrom, ← flatFrom_flattenImports, flatten_combineImport,
    ← split_eq_flatFrom_flatten]

/-- whatever does not see import statements split into their aliases does not see adjacent ones merged -/
theorem combine_invariant {α : Sort _} (P : List Stmt → α) (h : ∀ x, P (x.flatMap (splitImport ImpOnly)) = P x) (b : List Stmt) :
    P (combineFrom (combineImport b)) = P b := by
  rw [← h (combineFrom _), split_combine, h]

/-- the canonical form turns no other statement into an import statement and leaves import statements as they are, so it
    makes no difference whether it is taken before or after splitting them -/
theorem splitImport_cStmt (c : COpts) (cls : Option (List Expr × List Expr)) (s : Stmt) :
    splitImport c (cStmt c cls s) = (splitImport c s).map (cStmt c cls) := by
  cases s with
  | import_ ns => simp only [cStmt, splitImport]; split <;> simp [cStmt]
  | importFrom m ns l => simp only [cStmt, splitImport]; split <;> simp [cStmt]
  | return_ v =>
    show _ = [cStmt c cls (.return_ v)]
    obtain ⟨_, e⟩ := cStmt_return c cls v; rw [e]; rfl
  | annAssign tg ann v sm =>
    show _ = [cStmt c cls (.annAssign tg ann v sm)]
    rcases cStmt_annAssign c cls tg ann v sm with ⟨_, _, e⟩ | ⟨_, _, _, _, e⟩ <;> rw [e] <;> rfl
  | _ => rfl

theorem flatMap_splitImport_cBody (c : COpts) (cls : Option (List Expr × List Expr)) (b : List Stmt) :
    (cBody c cls b).flatMap (splitImport c) = cBody c cls (b.flatMap (splitImport c)) := by
  simp only [cBody_eq_map, List.flatMap_map, List.map_flatMap, splitImport_cStmt]

theorem imports_suite (cls : Option (List Expr × List Expr)) (fb : Bool) (ys : List Stmt) :
    cSuite ImpOnly fb (cBody ImpOnly cls (combineFrom (combineImport ys))) = cSuite ImpOnly fb (cBody ImpOnly cls ys) := by
  rw [cSuite_impOnly, cSuite_impOnly, flatMap_splitImport_cBody, flatMap_splitImport_cBody, split_combine]

theorem absorbs_combineImports : Absorbs ImpOnly combineImports :=
  absorbs_suiteT ImpOnly (fun _ b => combineFrom (combineImport b)) fun cls fb _ => imports_suite cls fb

end PMV.Transforms
