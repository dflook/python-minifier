import PMV.Spec.Layout
namespace PMV.Spec.Layout
open PMV PMV.Token PMV.Printer

theorem eff_nil (s : L0) : eff [] s = s := rfl

theorem eff_cons (x : Tok) (xs : List Tok) (s : L0) : eff (x :: xs) s = eff xs (l0step s x) := rfl

theorem eff_append (a b : List Tok) (s : L0) : eff (a ++ b) s = eff b (eff a s) := by
  unfold eff; exact List.foldl_append

theorem T_nil : T [] = [] := rfl

theorem T_cons (x : Tok) (xs : List Tok) : T (x :: xs) = .t x :: T xs := rfl

theorem T_append (a b : List Tok) : T (a ++ b) = T a ++ T b := List.map_append

@[simp] theorem nlay_nil : nlay [] = true := rfl
@[simp] theorem nlay_cons (x : Tok) (xs : List Tok) : nlay (x :: xs) = (!Spec.Lex.isLayout x && nlay xs) := by simp [nlay]
@[simp] theorem nlay_append (a b : List Tok) : nlay (a ++ b) = (nlay a && nlay b) := by simp [nlay]

theorem nlay_kw_colon (k : String) {xs : List Tok} (h : nlay xs = true) : nlay (.kw k :: xs ++ [.delim ":"]) = true := by
  simp [h, Spec.Lex.isLayout]

def NLay (xs : List Tok) : Prop := ∀ x ∈ xs, Spec.Lex.isLayout x = false

theorem NLay.append {a b : List Tok} (ha : NLay a) (hb : NLay b) : NLay (a ++ b) :=
  fun x hx => (List.mem_append.mp hx).elim (ha x) (hb x)

theorem emitBody_cons (t : PrecTable) (st : StmtTable) (d : Nat) (a : Stmt) (rest : List Stmt) :
    emitBody t st d (a :: rest) = emitS t st false d a ++ (if rest.isEmpty then [] else sepNext d a rest :: emitBody t st d rest) := by
  rw [emitBody]

theorem bodyToks_cons (t : PrecTable) (st : StmtTable) (a : Stmt) (rest : List Stmt) :
    bodyToks t st (a :: rest) = stmtToks t st a ++ bodyToks t st rest := by
  rw [bodyToks]

theorem simpleToks_of_eq {t : PrecTable} {st : StmtTable} {s : Stmt} {xs : List Tok} (e : stmtToks t st s = xs ++ [.endStmt]) :
    simpleToks t st s = xs := by
  rw [simpleToks, e, List.dropLast_concat]

/-- the arm `| s =>` of `okS` and of `emitS` does not reduce for a variable `s`: this lemma and the next say what it is -/
theorem okS_simple {t : PrecTable} {st : StmtTable} {s : Stmt} (hc : isCompoundSyn s = false) :
    okS t st s = true ↔ nlay (simpleToks t st s) = true ∧ simpleToks t st s ≠ [] := by
  have : okS t st s = (nlay (simpleToks t st s) && !(simpleToks t st s).isEmpty) := by
    cases s with
    | functionDef | classDef | for_ | while_ | if_ | with_ | match_ | try_ => cases hc
    | _ => rfl
  simp [this]

theorem emitS_simple (t : PrecTable) (st : StmtTable) (s : Stmt) (hc : isCompoundSyn s = false) (el : Bool) (d : Nat) :
    emitS t st el d s = T (simpleToks t st s) := by
  cases s with
  | functionDef | classDef | for_ | while_ | if_ | with_ | match_ | try_ => cases hc
  | _ => rfl

theorem isElifList_cons (s : Stmt) (ss : List Stmt) : isElifList (s :: ss) = (isIfStmt s && ss.isEmpty) := by
  cases ss <;> simp [isElifList]

theorem any_ne_nil {body : List Stmt} (h : body.any isCompoundSyn = true) : body ≠ [] := by
  intro hb; rw [hb] at h; cases h

theorem sepNext_cases (d : Nat) (a : Stmt) (rest : List Stmt) : sepNext d a rest = .nl d ∨ sepNext d a rest = .semi := by
  cases rest with
  | nil => exact .inl rfl
  | cons b r => simp only [sepNext, sep]; split <;> simp

theorem ne_nil_of_getLast? {α : Type} {l : List α} {a : α} (h : l.getLast? = some a) : l ≠ [] := by
  intro e; rw [e] at h; cases h

theorem hdrDef_colon (t : PrecTable) (a : Bool) (n : String) (args : Arguments) (r : Option Expr) (tps : List TypeParam) :
    (hdrDef t a n args r tps).getLast? = some (.delim ":") :=
  List.getLast?_concat

theorem hdrClass_colon (t : PrecTable) (n : String) (b : List Expr) (k : List Keyword) (tps : List TypeParam) :
    (hdrClass t n b k tps).getLast? = some (.delim ":") :=
  List.getLast?_concat

theorem hdrFor_colon (t : PrecTable) (a : Bool) (tg it : Expr) : (hdrFor t a tg it).getLast? = some (.delim ":") :=
  List.getLast?_concat

theorem hdrWith_colon (t : PrecTable) (a : Bool) (items : List WithItem) : (hdrWith t a items).getLast? = some (.delim ":") :=
  List.getLast?_concat

theorem hdrExcept_colon (t : PrecTable) (star : Bool) (ty : Option Expr) (name : Option String) :
    (hdrExcept t star ty name).getLast? = some (.delim ":") :=
  List.getLast?_concat

theorem hdrCase_colon (t : PrecTable) (pat : Pattern) (guard : Option Expr) : (hdrCase t pat guard).getLast? = some (.delim ":") :=
  List.getLast?_concat

theorem kw_colon (k : String) (xs : List Tok) : (Tok.kw k :: xs ++ [Tok.delim ":"]).getLast? = some (Tok.delim ":") := List.getLast?_concat

def EndsT (l : List LT) : Prop := ∃ pre tok, l = pre ++ [.t tok]

theorem EndsT.append_left (a : List LT) {b : List LT} (h : EndsT b) : EndsT (a ++ b) := by
  obtain ⟨pre, tok, rfl⟩ := h
  exact ⟨a ++ pre, tok, by simp⟩

theorem EndsT.cons (a : LT) {b : List LT} (h : EndsT b) : EndsT (a :: b) := EndsT.append_left [a] h

theorem EndsT_T {xs : List Tok} (h : xs ≠ []) : EndsT (T xs) := by
  obtain ⟨pre, x, rfl⟩ : ∃ pre x, xs = pre ++ [x] := ⟨xs.dropLast, xs.getLast h, (List.dropLast_concat_getLast h).symm⟩
  exact ⟨T pre, x, T_append pre [x]⟩

theorem EndsT.ne_nil {l : List LT} (h : EndsT l) : l ≠ [] := by
  obtain ⟨pre, tok, rfl⟩ := h; simp

/-- `emitS` writes this out for every clause; named so that what holds of clauses is stated once -/
def clause (t : PrecTable) (st : StmtTable) (d : Nat) (hdr : List Tok) (body : List Stmt) : List LT :=
  T hdr ++ suiteStart d body ++ emitBody t st (d + 1) body

def optClause (t : PrecTable) (st : StmtTable) (kwd : String) (d : Nat) (body : List Stmt) : List LT :=
  if body.isEmpty then [] else .nl d :: clause t st d [.kw kwd, .delim ":"] body

def elsePart (t : PrecTable) (st : StmtTable) (d : Nat) (orelse : List Stmt) : List LT :=
  if orelse.isEmpty then []
  else if isElifList orelse then .nl d :: emitElif t st d orelse
  else .nl d :: clause t st d [.kw "else", .delim ":"] orelse

section
variable (t : PrecTable) (st : StmtTable) (el : Bool) (d : Nat)

theorem emitS_functionDef (a : Bool) (n : String) (args : Arguments) (body : List Stmt) (decs : List Expr) (r : Option Expr)
    (tps : List TypeParam) : emitS t st el d (.functionDef a n args body decs r tps) =
      decoLines t d decs ++ clause t st d (hdrDef t a n args r tps) body := by
  simp [emitS, clause]

theorem emitS_classDef (n : String) (bases : List Expr) (kws : List Keyword) (body : List Stmt) (decs : List Expr)
    (tps : List TypeParam) : emitS t st el d (.classDef n bases kws body decs tps) =
      decoLines t d decs ++ clause t st d (hdrClass t n bases kws tps) body := by
  simp [emitS, clause]

theorem emitS_with (a : Bool) (items : List WithItem) (body : List Stmt) :
    emitS t st el d (.with_ a items body) = clause t st d (hdrWith t a items) body := by
  rw [emitS, clause]

theorem emitS_for (a : Bool) (tg it : Expr) (body orelse : List Stmt) : emitS t st el d (.for_ a tg it body orelse) =
    clause t st d (hdrFor t a tg it) body ++ optClause t st "else" d orelse := by
  simp [emitS, clause, optClause]

theorem emitS_while (c : Expr) (body orelse : List Stmt) : emitS t st el d (.while_ c body orelse) =
    clause t st d (.kw "while" :: tExpr t c ++ [.delim ":"]) body ++ optClause t st "else" d orelse := by
  simp [emitS, clause, optClause]

theorem emitS_if (c : Expr) (body orelse : List Stmt) : emitS t st el d (.if_ c body orelse) =
    clause t st d (.kw (if el then "elif" else "if") :: tExpr t c ++ [.delim ":"]) body ++ elsePart t st d orelse := by
  simp [emitS, clause, elsePart]

theorem emitS_try (star : Bool) (body : List Stmt) (hs : List Handler) (orelse fin : List Stmt) :
    emitS t st el d (.try_ star body hs orelse fin) = clause t st d [.kw "try", .delim ":"] body ++
      (emitHandlers t st star d hs ++ optClause t st "else" d orelse ++ optClause t st "finally" d fin) := by
  simp [emitS, clause, optClause]

theorem emitHandlers_cons (star : Bool) (ty : Option Expr) (name : Option String) (body : List Stmt) (hs : List Handler) :
    emitHandlers t st star d (.mk ty name body :: hs) =
      .nl d :: clause t st d (hdrExcept t star ty name) body ++ emitHandlers t st star d hs := by
  simp [emitHandlers, clause]

theorem emitCases_cons (pat : Pattern) (guard : Option Expr) (body : List Stmt) (cs : List MatchCase) :
    emitCases t st d (.mk pat guard body :: cs) =
      clause t st d (hdrCase t pat guard) body ++ (if cs.isEmpty then [] else .nl d :: emitCases t st d cs) := by
  rw [emitCases, clause]

end

section
variable {t : PrecTable} {st : StmtTable} {d : Nat} {hdr : List Tok} {body : List Stmt}

theorem clause_nil : clause t st d hdr [] = T hdr := by simp [clause, suiteStart, emitBody]

theorem clause_block (h : body.any isCompoundSyn = true) :
    clause t st d hdr body = T hdr ++ .nl (d + 1) :: emitBody t st (d + 1) body := by simp [clause, suiteStart, h]

theorem clause_inline (h : body.any isCompoundSyn = false) : clause t st d hdr body = T hdr ++ emitBody t st (d + 1) body := by
  simp [clause, suiteStart, h]

theorem EndsT_clause (hne : hdr ≠ []) (hb : body ≠ [] → EndsT (emitBody t st (d + 1) body)) : EndsT (clause t st d hdr body) := by
  by_cases he : body = []
  · subst he; rw [clause_nil]; exact EndsT_T hne
  · exact EndsT.append_left _ (hb he)

end

end PMV.Spec.Layout
