import PMV.Proofs.PyCore
import PMV.Proofs.TransformsImports
/-
  In the semantics an import statement is a sequence of import events (one per alias, in order), each binding one name;
  `combine_imports` keeps the sequence (`split_combine`), hence whatever splitting into single-alias statements keeps
  (`combine_invariant`).  Abstracted: what an import *does* beyond the event and the binding (running the imported module);
  the order of the events is what a module's side effects depend on.
-/
namespace PMV.PyCore
open PMV PMV.Transforms PMV.Spec.Rewrites

variable {o : Bool}

theorem exec1_import (ft : FTab) (n : Nat) (s : St) (names : List Alias) :
    exec1 ⟨ft, o⟩ n s (.import_ names) = .ok (.normal (importAll s names)) := by
  rw [exec1_simple _ _ _ _ rfl rfl rfl]; rfl

theorem exec1_importFrom (ft : FTab) (n : Nat) (s : St) (m : Option String) (names : List Alias) (l : Nat) :
    exec1 ⟨ft, o⟩ n s (.importFrom m names l) =
      if hasStar names then .stuck else .ok (.normal (importFromAll m l s names)) := by
  rw [exec1_simple _ _ _ _ rfl rfl rfl]; rfl

theorem execL_import_singles (ft : FTab) (n : Nat) : ∀ (names : List Alias) (s : St),
    execL ⟨ft, o⟩ n s (names.map (fun a => Stmt.import_ [a])) = .ok (.normal (importAll s names))
  | [], s => execL_nil ft n s
  | a :: rest, s => by
    rw [List.map_cons, execL_cons, exec1_import]
    exact execL_import_singles ft n rest _

theorem execL_stuck_cons (ft : FTab) (n : Nat) (s : St) (st : Stmt) (rest : List Stmt)
    (h : exec1 ⟨ft, o⟩ n s st = .stuck) : execL ⟨ft, o⟩ n s (st :: rest) = .stuck := by
  rw [execL_cons, h]

theorem hasStar_cons (a : Alias) (rest : List Alias) : hasStar (a :: rest) = (a.name == "*" || hasStar rest) := by
  simp [hasStar]

theorem execL_from_singles (ft : FTab) (n : Nat) (m : Option String) (l : Nat) : ∀ (names : List Alias) (s : St),
    execL ⟨ft, o⟩ n s (names.map (fun a => Stmt.importFrom m [a] l)) =
      if hasStar names then .stuck else .ok (.normal (importFromAll m l s names))
  | [], s => execL_nil ft n s
  | a :: rest, s => by
    rw [List.map_cons, execL_cons, exec1_importFrom, hasStar_cons a rest, hasStar_cons a []]
    simp only [execL_from_singles ft n m l rest]
    cases a.name == "*" <;> rfl

theorem split_exec (ft : FTab) (n : Nat) (s : St) :
    ∀ st, execL ⟨ft, o⟩ n s (splitImport ImpOnly st) = execL ⟨ft, o⟩ n s [st] :=
  splitImport_invariant _
    (fun names => (execL_import_singles ft n names s).trans (by simp only [execL_cons, exec1_import, execL_nil]))
    fun m names l => (execL_from_singles ft n m l names s).trans (by
      simp only [execL_cons, exec1_importFrom, execL_nil]
      cases hasStar names <;> rfl)

theorem execL_split (ft : FTab) (n : Nat) (s : St) (b : List Stmt) :
    execL ⟨ft, o⟩ n s (b.flatMap (splitImport ImpOnly)) = execL ⟨ft, o⟩ n s b :=
  congrFun (flatMap_hom (P := fun l s => execL ⟨ft, o⟩ n s l) (op := fun k k' s => (k s).andThen k')
    (fun a b => funext (execL_append ft n a b)) (fun st => funext fun s => split_exec ft n s st) b) s

theorem declaredGlobals_map_noGlobal {α : Type} (g : α → Stmt) (hg : ∀ a, globalsOf (g a) = []) :
    ∀ l : List α, declaredGlobals (l.map g) = []
  | [] => rfl
  | a :: rest => by simp only [List.map_cons, declaredGlobals, hg a, declaredGlobals_map_noGlobal g hg rest, List.append_nil]

theorem collect_map_noDef {α : Type} (g : α → Stmt) (hg : ∀ a, defOf (g a) = none) : ∀ l : List α, collect (l.map g) = []
  | [] => rfl
  | a :: rest => by simp only [List.map_cons, collect, hg a, collect_map_noDef g hg rest]

theorem split_globals : ∀ st, declaredGlobals (splitImport ImpOnly st) = declaredGlobals [st] :=
  splitImport_invariant _ (declaredGlobals_map_noGlobal _ fun _ => rfl) fun _ names _ => declaredGlobals_map_noGlobal _ (fun _ => rfl) names

theorem split_collect : ∀ st, collect (splitImport ImpOnly st) = collect [st] :=
  splitImport_invariant _ (collect_map_noDef _ fun _ => rfl) fun _ names _ => collect_map_noDef _ (fun _ => rfl) names

theorem globals_combine (b : List Stmt) : declaredGlobals (combineFrom (combineImport b)) = declaredGlobals b :=
  combine_invariant declaredGlobals (flatMap_hom declaredGlobals_append split_globals) b

theorem collect_combine (b : List Stmt) : collect (combineFrom (combineImport b)) = collect b :=
  combine_invariant collect (flatMap_hom collect_append split_collect) b

end PMV.PyCore
