/-
  Two tables of strings have nothing in common: decided on numeric keys of the strings and on bit sets of those keys.  The kernel
  compares two strings byte list by byte list (about a millisecond a pair), so walking each table once is a thousand times cheaper.
-/
namespace PMV.NameTable

/-- The UTF-8 bytes of a string as digits 1 … 256 in base 257, first byte lowest. -/
def key (s : String) : Nat := s.toByteArray.data.toList.foldr (fun b k => b.toNat + 1 + 257 * k) 0

theorem key_inj {s t : String} (h : key s = key t) : s = t := by
  have digits : ∀ l m : List UInt8,
      l.foldr (fun b k => b.toNat + 1 + 257 * k) 0 = m.foldr (fun b k => b.toNat + 1 + 257 * k) 0 → l = m := by
    intro l
    induction l with
    | nil => intro m h; cases m with
      | nil => rfl
      | cons b m => simp only [List.foldr] at h; omega
    | cons a l ih => intro m h; cases m with
      | nil => simp only [List.foldr] at h; omega
      | cons b m =>
        simp only [List.foldr] at h
        have ha := a.toNat_lt; have hb := b.toNat_lt
        rw [UInt8.toNat_inj.mp (show a.toNat = b.toNat by omega), ih m (by omega)]
  exact String.toByteArray_inj.mp (ByteArray.ext (Array.ext' (digits _ _ h)))

theorem key_underscore (s : String) : key ("_" ++ s) = 96 + 257 * key s := by
  simp only [key, String.toByteArray_append, ByteArray.data_append, Array.toList_append, List.foldr_append]
  rfl

theorem contains_key (words : List String) (s : String) : (words.map key).contains (key s) = words.contains s := by
  rw [List.contains_map, List.contains_eq_any_beq]
  congr 1; funext w
  exact Bool.eq_iff_iff.mpr (by simp only [beq_iff_eq]; exact ⟨key_inj, congrArg key⟩)

/-- of the keys that have `_` as their first byte, the rest -/
def afterUnderscore (ks : List Nat) : List Nat := ks.filterMap fun k => if k % 257 = 96 then some (k / 257) else none

theorem contains_afterUnderscore (ks : List Nat) (j : Nat) : (afterUnderscore ks).contains j = ks.contains (96 + 257 * j) := by
  rw [afterUnderscore, List.contains_filterMap, List.contains_eq_any_beq]
  congr 1; funext k
  split
  · exact Bool.eq_iff_iff.mpr (by simp only [Option.any_some, beq_iff_eq]; omega)
  · exact (beq_false_of_ne (by omega)).symm

/-- the numbers of `ks` up to `b` as a set of bits: membership is one step for the kernel -/
def bits (b : Nat) (ks : List Nat) : Nat := ks.foldl (fun m k => if k ≤ b then m ||| 1 <<< k else m) 0

theorem testBit_bits (b : Nat) (ks : List Nat) (j : Nat) (hj : j ≤ b) : (bits b ks).testBit j = ks.contains j := by
  have fold : ∀ (l : List Nat) (m : Nat),
      (l.foldl (fun m k => if k ≤ b then m ||| 1 <<< k else m) m).testBit j = (m.testBit j || l.contains j) := by
    intro l
    induction l with
    | nil => intro m; simp
    | cons k l ih =>
      intro m
      rw [List.foldl_cons, ih, List.contains_cons]
      by_cases hk : k = j
      · subst hk; simp [hj, Nat.testBit_or, Nat.one_shiftLeft]
      · have : (j == k) = false := beq_false_of_ne (Ne.symm hk)
        split <;> simp [Nat.testBit_or, Nat.one_shiftLeft, hk, this]
  simpa [bits] using fold ks 0

/-- For the bound `b` take the largest key of a name: a key grows with the length of the string, and the bit sets have `b + 1` bits. -/
theorem all_not_contains_of_bits (names words : List String) (b : Nat)
    (h : (names.all fun n => key n ≤ b && !(bits b (words.map key)).testBit (key n)
      && !(bits b (afterUnderscore (words.map key))).testBit (key n)) = true) :
    (names.all fun n => !words.contains n && !words.contains ("_" ++ n)) = true := by
  rw [List.all_eq_true] at h ⊢
  intro n hn
  have hn := h n hn
  simp only [Bool.and_eq_true, decide_eq_true_eq] at hn
  rw [← contains_key, ← contains_key, key_underscore, ← contains_afterUnderscore, ← testBit_bits b _ _ hn.1.1,
    ← testBit_bits b _ _ hn.1.1, hn.1.2, hn.2]
  rfl

end PMV.NameTable
