import PMV.Model.Freeze
namespace PMV.Freeze

theorem mem_own {rl : Bool} {pl : List String} {isNs isMod : Bool} {bs : List (Nat × Option String)} {i : Nat} :
    i ∈ (if isNs && !isMod then (bs.filter (frozenLocal rl pl)).map (·.1) else []) ↔
      isNs = true ∧ isMod = false ∧ ∃ b, (b ∈ bs ∧ frozenLocal rl pl b = true) ∧ b.1 = i := by
  cases isNs <;> cases isMod <;> simp [-Prod.exists]

mutual
theorem freezeLocals_sound (rl : Bool) (pl : List String) (i : Nat) : (n : Node) → i ∈ freezeLocals rl pl n →
    ∃ b, LocalBinding n b ∧ b.1 = i ∧ frozenLocal rl pl b = true
  | .mk _ _ _ children => fun h => (List.mem_append.mp h).elim
    (fun h => by obtain ⟨rfl, hmod, b, ⟨hmem, hf⟩, hi⟩ := mem_own.mp h; exact ⟨b, .here hmod hmem, hi, hf⟩)
    (fun h => (freezeLocalsL_sound rl pl i children h).imp fun _ => And.imp_left .inChild)
theorem freezeLocalsL_sound (rl : Bool) (pl : List String) (i : Nat) : (l : List Node) → i ∈ freezeLocalsL rl pl l →
    ∃ b, LocalBindingL l b ∧ b.1 = i ∧ frozenLocal rl pl b = true
  | [] => fun h => nomatch h
  | n :: rest => fun h => (List.mem_append.mp h).elim
    (fun h => (freezeLocals_sound rl pl i n h).imp fun _ => And.imp_left .head)
    (fun h => (freezeLocalsL_sound rl pl i rest h).imp fun _ => And.imp_left .tail)
end

mutual
theorem freezeLocals_complete (rl : Bool) (pl : List String) (b : Nat × Option String) (hf : frozenLocal rl pl b = true) :
    {n : Node} → LocalBinding n b → b.1 ∈ freezeLocals rl pl n
  | _, .here hmod hmem => List.mem_append_left _ (mem_own.mpr ⟨rfl, hmod, b, ⟨hmem, hf⟩, rfl⟩)
  | _, .inChild h => List.mem_append_right _ (freezeLocalsL_complete rl pl b hf h)
-- the derivation only says which child to enter: recursion on the derivation itself is dearer to set up
termination_by structural n => n
theorem freezeLocalsL_complete (rl : Bool) (pl : List String) (b : Nat × Option String) (hf : frozenLocal rl pl b = true) :
    {l : List Node} → LocalBindingL l b → b.1 ∈ freezeLocalsL rl pl l
  | _, .head h => List.mem_append_left _ (freezeLocals_complete rl pl b hf h)
  | _, .tail h => List.mem_append_right _ (freezeLocalsL_complete rl pl b hf h)
end

/-- `allow_rename_locals` freezes exactly the bindings of the namespaces other than the module — at any depth, whatever kind of
    node they hang on — that are listed, or all of them when local renaming is off -/
theorem freezeLocals_spec (rl : Bool) (pl : List String) (n : Node) (i : Nat) :
    i ∈ freezeLocals rl pl n ↔ ∃ b, LocalBinding n b ∧ b.1 = i ∧ frozenLocal rl pl b = true := by
  constructor
  · exact freezeLocals_sound rl pl i n
  · rintro ⟨b, hb, hi, hf⟩
    rw [← hi]
    exact freezeLocals_complete rl pl b hf hb

theorem freezeGlobals_spec (rg : Bool) (pg ex : List String) (od : List Nat) (bs : List (Nat × Option String)) (i : Nat) :
    i ∈ freezeGlobals rg pg ex od bs ↔ ∃ b ∈ bs, b.1 = i ∧ (rg = false ∨ listedIn (pg ++ ex) b.2 = true ∨ od.contains b.1 = true) := by
  unfold freezeGlobals
  simp only [List.mem_map, List.mem_filter, Bool.or_eq_true, Bool.not_eq_true', or_assoc]
  exact ⟨fun ⟨b, ⟨hb, hc⟩, hi⟩ => ⟨b, hb, hi, hc⟩, fun ⟨b, hb, hi, hc⟩ => ⟨b, ⟨hb, hc⟩, hi⟩⟩

end PMV.Freeze
