import PMV.Proofs.Resolve
import PMV.Proofs.RenameResolve
namespace PMV.Resolve
open PMV.Rename

/-- `t'` is the namespace tree after the renaming `rs`, as far as the lookup of a use of `x`, now spelled `y`, is concerned:
    same shape; the scopes bind what `rs` says they bind, before and after; `global` / `nonlocal` declarations of `x` became
    declarations of `y` -/
structure RenamedFor (t t' : Tree) (rs : List Result) (x y : String) : Prop where
  length : t'.length = t.length
  kind : ∀ a, (info t' a).kind = (info t a).kind
  parent : ∀ a, (info t' a).parent = (info t a).parent
  bindsBefore : ∀ a, (info t a).bindings.contains x = bindsOrig rs a x
  bindsAfter : ∀ a, (info t' a).bindings.contains y = bindsFinal rs a y
  globals : ∀ a, (info t' a).globals.contains y = (info t a).globals.contains x
  nonlocals : ∀ a, (info t' a).nonlocals.contains y = (info t a).nonlocals.contains x

theorem nonlocalNs_congr (t t' : Tree) (hk : ∀ a, (info t' a).kind = (info t a).kind) (hp : ∀ a, (info t' a).parent = (info t a).parent) :
    ∀ (fuel n : Nat), nonlocalNs t' fuel n = nonlocalNs t fuel n := by
  intro fuel
  induction fuel with
  | zero => exact hp
  | succ f ih => intro n; show (if _ then _ else _) = (if _ then _ else _); simp only [hp, hk, ih]

theorem lookupPath_congr (t t' : Tree) (rs : List Result) (x y : String) (h : RenamedFor t t' rs x y) :
    ∀ (fuel n : Nat), lookupPath t' y fuel n = lookupPath t x fuel n := by
  intro fuel
  induction fuel with
  | zero => intro n; rfl
  | succ f ih =>
    intro n
    show (if _ then _ else _) = (if _ then _ else _)
    simp only [h.kind, h.globals, h.nonlocals, h.length, nonlocalNs_congr t t' h.kind h.parent, ih]

/-- T03.6: T03.4 with Python's lookup path as the path: the model of `get_binding`, run on the namespace tree after renaming, finds
    the scope it found before -/
theorem lookup_after_renaming (t t' : Tree) (rs : List Result) (r : Result) (x y : String) (fuel n : Nat)
    (h : RenamedFor t t' rs x y)
    (hr : r ∈ rs) (hname : r.b.name = some x) (hfin : r.final = some y)
    (horig : getBinding t x fuel n = some r.b.home)
    (cover : ∀ a ∈ (lookupPath t x fuel n).takeWhile (fun a => !bindsOrig rs a x), a ∈ r.b.scope)
    (clash : ∀ r' ∈ rs, r'.b.home ≠ r.b.home → (r.renamed = true ∨ r'.renamed = true) → (∃ ns, ns ∈ r.b.scope ∧ ns ∈ r'.b.scope) → r'.final ≠ r.final)
    (kept : ∀ r' ∈ rs, r'.renamed = false → r'.final = r'.b.name)
    (homeIn : ∀ r' ∈ rs, r'.b.home ∈ r'.b.scope) :
    getBinding t' y fuel n = getBinding t x fuel n := by
  -- both lookups are searches along the same path, for what `rs` says the scopes bind after / before renaming
  rw [horig, getBinding_spec, resolveSpec, lookupPath_congr t t' rs x y h, funext h.bindsAfter]
  rw [getBinding_spec, resolveSpec, funext h.bindsBefore] at horig
  exact renaming_preserves_resolution rs _ r x hr hname y hfin horig cover clash kept homeIn

/-- `RenamedFor` from a check of the namespaces inside the tree, when no binding of `rs` is homed outside it: beyond the
    tree every namespace is the default one, which binds and declares nothing -/
theorem RenamedFor.of_check {t t' : Tree} {rs : List Result} {x y : String} (hl : t'.length = t.length)
    (hrs : ∀ r ∈ rs, r.b.home < t.length)
    (h : ∀ a, a < t.length → (info t' a).kind = (info t a).kind ∧ (info t' a).parent = (info t a).parent ∧
      (info t a).bindings.contains x = bindsOrig rs a x ∧ (info t' a).bindings.contains y = bindsFinal rs a y ∧
      (info t' a).globals.contains y = (info t a).globals.contains x ∧
      (info t' a).nonlocals.contains y = (info t a).nonlocals.contains x) : RenamedFor t t' rs x y := by
  have all := fun a => (Nat.lt_or_ge a t.length).elim (h a) fun ha => by
    have far : ∀ r ∈ rs, (r.b.home == a) = false := fun r hr =>
      beq_false_of_ne (Nat.ne_of_lt (Nat.lt_of_lt_of_le (hrs r hr) ha))
    have ho : bindsOrig rs a x = false := List.any_eq_false.mpr fun r hr => by simp [far r hr]
    have hf : bindsFinal rs a y = false := List.any_eq_false.mpr fun r hr => by simp [far r hr]
    rw [info_ge t a ha, info_ge t' a (hl ▸ ha), ho, hf]; exact ⟨rfl, rfl, rfl, rfl, rfl, rfl⟩
  exact ⟨hl, fun a => (all a).1, fun a => (all a).2.1, fun a => (all a).2.2.1, fun a => (all a).2.2.2.1,
    fun a => (all a).2.2.2.2.1, fun a => (all a).2.2.2.2.2⟩

/-! non-vacuity of T03.6: the module binds `value` (→ `A`), function 1 binds `local_one` (→ `B`) and reads `value` -/

def exGv : Binding := ⟨0, .name, some "value", 0, true, none, 0, true, [], [⟨.name, []⟩, ⟨.name, [1, 0]⟩]⟩
def exLv : Binding := ⟨1, .name, some "local_one", 0, true, none, 1, false, [], [⟨.name, []⟩, ⟨.name, []⟩]⟩
def exRs : List Result := [⟨exGv, some "A", true, false⟩, ⟨exLv, some "B", true, false⟩]
def exT : Tree := [⟨.module, 0, ["value"], [], []⟩, ⟨.function, 0, ["local_one"], [], []⟩]
def exT' : Tree := [⟨.module, 0, ["A"], [], []⟩, ⟨.function, 0, ["B"], [], []⟩]

theorem exRenamed : RenamedFor exT exT' exRs "value" "A" := .of_check rfl (by decide +kernel) (by decide +kernel)

theorem exApplies : getBinding exT' "A" 4 1 = getBinding exT "value" 4 1 :=
  lookup_after_renaming exT exT' exRs ⟨exGv, some "A", true, false⟩ "value" "A" 4 1 exRenamed
    List.mem_cons_self rfl rfl (by decide +kernel) (by decide +kernel) (by decide +kernel) (by decide +kernel) (by decide +kernel)

end PMV.Resolve
