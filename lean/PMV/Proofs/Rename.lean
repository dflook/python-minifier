import PMV.Model.Rename
/-
  The NameAssigner.  Two facts carry everything: what one iteration can do (`decide1_spec`), and that every result of the loop is
  one iteration run in a state that holds everything recorded before it (`mem_loop`, `loop_pairwise`).  Properties of single
  results are then properties of `decide1`; properties of pairs are properties of two iterations.
-/
namespace PMV.Rename

theorem mem_reserve {n m : String} {sc : List Ns} {a : Assigned} {ns : Ns} :
    m ∈ reserve n sc a ns ↔ (ns ∈ sc ∧ m = n) ∨ m ∈ a ns := by
  by_cases h : ns ∈ sc <;> simp [reserve, h]

theorem mem_after {a : Assigned} {r : Result} {ns : Ns} {m : String} :
    m ∈ after a r ns ↔ (ns ∈ r.b.scope ∧ r.final = some m) ∨ m ∈ a ns := by
  unfold after; cases r.final <;> simp [mem_reserve, eq_comm]

theorem avail_iff {a : Assigned} {n : String} {sc : List Ns} : avail a n sc = true ↔ ∀ ns ∈ sc, n ∉ a ns := by
  simp [avail]

theorem mem_foldl_record {α} (step : Assigned → α → Assigned) (P : α → Ns → String → Prop)
    (hstep : ∀ a x ns m, m ∈ step a x ns ↔ P x ns m ∨ m ∈ a ns) (l : List α) (a : Assigned) (ns : Ns) (m : String) :
    m ∈ l.foldl step a ns ↔ (∃ x ∈ l, P x ns m) ∨ m ∈ a ns := by
  induction l generalizing a with
  | nil => simp
  | cons x xs ih => simp only [List.foldl_cons, ih, hstep, List.mem_cons, exists_eq_or_imp, or_assoc, or_left_comm]

theorem mem_foldl_globals {moduleNs : Ns} (l : List String) (a : Assigned) (ns : Ns) (m : String) :
    m ∈ l.foldl (fun a n => reserve n [moduleNs] a) a ns ↔ (m ∈ l ∧ ns = moduleNs) ∨ m ∈ a ns := by
  rw [mem_foldl_record _ (fun n ns m => ns = moduleNs ∧ m = n) fun a n ns m => by simp [mem_reserve]]
  simp

theorem mem_initial {bindings : List Binding} {moduleNs : Ns} {rg : List String} {ns : Ns} {m : String} :
    m ∈ initial bindings moduleNs rg ns ↔
      (m ∈ rg ∧ ns = moduleNs) ∨ ∃ b ∈ bindings, b.reserved = some m ∧ ns ∈ b.scope := by
  unfold initial
  rw [mem_foldl_globals, mem_foldl_record _ (fun b ns m => b.reserved = some m ∧ ns ∈ b.scope)
    fun a b ns m => by cases b.reserved <;> simp [mem_reserve, eq_comm, and_comm]]
  simp

def Sub (a a' : Assigned) : Prop := ∀ ns m, m ∈ a ns → m ∈ a' ns

theorem Sub.refl (a : Assigned) : Sub a a := fun _ _ h => h

theorem Sub.trans {a b c : Assigned} (h1 : Sub a b) (h2 : Sub b c) : Sub a c := fun ns m h => h2 ns m (h1 ns m h)

theorem Sub.after (a : Assigned) (r : Result) : Sub a (after a r) := fun _ _ h => mem_after.mpr (.inr h)

theorem availableName_spec {names : List String} {pfx : String} {a : Assigned} {sc : List Ns} {n : String}
    (h : availableName names pfx a sc = some n) : avail a n sc = true ∧ ∃ m ∈ names, n = pfx ++ m := by
  unfold availableName at h
  obtain ⟨m, hm, rfl⟩ := List.mem_map.mp (List.mem_of_find?_eq_some h)
  exact ⟨by simpa using List.find?_some h, m, hm, rfl⟩

theorem decide1_spec (names : List String) (pg : Bool) (a : Assigned) (b : Binding) :
    (∃ cand, decide1 names pg a b = ⟨b, some cand, true, false⟩ ∧ b.allow = true ∧
      availableName names (pfxOf b pg) a b.scope = some cand ∧ (shouldRename b cand = true ∨ mustRename a b = true)) ∨
    (∃ x, decide1 names pg a b = ⟨b, b.name, false, x⟩ ∧ (x = false → b.allow = true → mustRename a b = false)) := by
  unfold decide1
  by_cases hal : b.allow = true
  · rw [if_pos hal]
    cases hav : availableName names (pfxOf b pg) a b.scope with
    | none => exact .inr ⟨true, rfl, fun h => nomatch h⟩
    | some cand =>
      by_cases hc : (shouldRename b cand || mustRename a b) = true
      · exact .inl ⟨cand, if_pos hc, hal, rfl, (Bool.or_eq_true _ _).mp hc⟩
      · exact .inr ⟨false, if_neg hc, fun _ _ => (Bool.or_eq_false_iff.mp (Bool.eq_false_iff.mpr hc)).2⟩
  · rw [if_neg hal]; exact .inr ⟨false, rfl, fun _ h => absurd h hal⟩

theorem decide1_b (names : List String) (pg : Bool) (a : Assigned) (b : Binding) : (decide1 names pg a b).b = b := by
  rcases decide1_spec names pg a b with ⟨_, h, _⟩ | ⟨_, h, _⟩ <;> rw [h]

section
variable {names : List String} {pg : Bool} {a : Assigned} {b : Binding}

theorem decide1_kept (h : (decide1 names pg a b).renamed = false) (hx : (decide1 names pg a b).exhausted = false) :
    (decide1 names pg a b).final = b.name ∧ (b.allow = true → mustRename a b = false) := by
  rcases decide1_spec names pg a b with ⟨_, e, _⟩ | ⟨x, e, hm⟩ <;> rw [e] at h hx ⊢
  · cases h
  · exact ⟨rfl, hm hx⟩

theorem decide1_from_table (h : (decide1 names pg a b).renamed = true) :
    ∃ m ∈ names, (decide1 names pg a b).final = some (pfxOf b pg ++ m) := by
  rcases decide1_spec names pg a b with ⟨_, e, _, hav, _⟩ | ⟨_, e, _⟩ <;> rw [e] at h ⊢
  · obtain ⟨_, m, hm, rfl⟩ := availableName_spec hav; exact ⟨m, hm, rfl⟩
  · cases h

theorem decide1_fresh {ns : Ns} {m : String} (h : (decide1 names pg a b).renamed = true) (hns : ns ∈ b.scope) (hm : m ∈ a ns) :
    (decide1 names pg a b).final ≠ some m := by
  rcases decide1_spec names pg a b with ⟨_, e, _, hav, _⟩ | ⟨_, e, _⟩ <;> rw [e] at h ⊢
  · rintro ⟨rfl⟩; exact avail_iff.mp (availableName_spec hav).1 ns hns hm
  · cases h

theorem decide1_pinned (hal : b.allow = false) :
    (decide1 names pg a b).final = b.name ∧ (decide1 names pg a b).renamed = false := by
  rcases decide1_spec names pg a b with ⟨_, _, h, _⟩ | ⟨_, e, _⟩
  · rw [hal] at h; cases h
  · rw [e]; exact ⟨rfl, rfl⟩

end

/-- precondition on the input (decidable; true of what the binder produces): a named binding that may
    not be renamed has its name reserved; hoisted bindings have no name. -/
def WFB (b : Binding) : Bool :=
  (b.kind != .hoisted || b.name.isNone) &&
  (b.allow || b.name.isNone || b.reserved == b.name)

theorem kept_name {a : Assigned} {b : Binding} {o : String} (hwf : WFB b = true) (hn : b.name = some o)
    (h : b.allow = true → mustRename a b = false) : b.reserved = some o ∨ avail a o b.scope = true := by
  simp only [WFB, hn, Option.isNone_some, Bool.or_false, Bool.and_eq_true, Bool.or_eq_true, bne_iff_ne, ne_eq, beq_iff_eq] at hwf
  rcases hwf.2 with hal | hres
  · have hm := h hal
    unfold mustRename at hm
    by_cases hr : b.reserved = some o
    · exact .inl hr
    · cases hk : b.kind with
      | hoisted => exact absurd hk hwf.1
      | name | builtin => right; simpa [hk, hn, hr] using hm
  · exact .inl hres

theorem mem_loop {names : List String} {pg : Bool} : ∀ {bs : List Binding} {a : Assigned} {r : Result},
    r ∈ loop names pg a bs → ∃ a' b, b ∈ bs ∧ Sub a a' ∧ r = decide1 names pg a' b
  | [], _, _ => fun h => nomatch h
  | b :: bs, a, r => fun h => by
    rcases List.mem_cons.mp h with rfl | h
    · exact ⟨a, b, List.mem_cons_self, .refl a, rfl⟩
    · obtain ⟨a', c, hc, hs, e⟩ := mem_loop h
      exact ⟨a', c, List.mem_cons_of_mem _ hc, (Sub.after a _).trans hs, e⟩

/-- only the later binding is located in `bs`: its `WFB` and its reservation are all that `steps_no_clash` asks for -/
theorem loop_pairwise (names : List String) (pg : Bool) : ∀ (bs : List Binding) (a : Assigned),
    (loop names pg a bs).Pairwise fun r1 r2 => ∃ a1 b1 a2 b2, b2 ∈ bs ∧ Sub a a1 ∧ Sub (after a1 r1) a2 ∧
      r1 = decide1 names pg a1 b1 ∧ r2 = decide1 names pg a2 b2
  | [], _ => .nil
  | b :: bs, a => by
    refine List.pairwise_cons.mpr ⟨fun r2 h2 => ?_, (loop_pairwise names pg bs _).imp ?_⟩
    · obtain ⟨a2, b2, hb2, hs, e⟩ := mem_loop h2
      exact ⟨a, b, a2, b2, List.mem_cons_of_mem _ hb2, .refl a, hs, rfl, e⟩
    · rintro r1 r2 ⟨a1, b1, a2, b2, h2, hs, hs', e⟩
      exact ⟨a1, b1, a2, b2, List.mem_cons_of_mem _ h2, (Sub.after a _).trans hs, hs', e⟩

theorem renamed_from_table {names : List String} {pg : Bool} {bs : List Binding} {a : Assigned} {r : Result}
    (h : r ∈ loop names pg a bs) (hr : r.renamed = true) : ∃ m ∈ names, r.final = some (pfxOf r.b pg ++ m) := by
  obtain ⟨_, b, _, _, rfl⟩ := mem_loop h; rw [decide1_b]; exact decide1_from_table hr

theorem pinned_kept {names : List String} {pg : Bool} {bs : List Binding} {a : Assigned} {r : Result}
    (h : r ∈ loop names pg a bs) (hal : r.b.allow = false) : r.final = r.b.name ∧ r.renamed = false := by
  obtain ⟨_, b, _, _, rfl⟩ := mem_loop h; rw [decide1_b] at hal ⊢; exact decide1_pinned hal

theorem renamed_after {names : List String} {pg : Bool} {a1 a2 : Assigned} {r1 : Result} {b2 : Binding}
    (hs : Sub (after a1 r1) a2) (hren : (decide1 names pg a2 b2).renamed = true)
    (hns : ∃ ns, ns ∈ r1.b.scope ∧ ns ∈ (decide1 names pg a2 b2).b.scope) (hsome : r1.final.isSome) :
    r1.final ≠ (decide1 names pg a2 b2).final := by
  obtain ⟨ns, h1, h2⟩ := hns
  obtain ⟨n, hn⟩ := Option.isSome_iff_exists.mp hsome
  rw [decide1_b] at h2
  exact hn ▸ (decide1_fresh hren h2 (hs ns n (mem_after.mpr (.inl ⟨h1, hn⟩)))).symm

theorem pairwise_later_renamed (names : List String) (pg : Bool) (bs : List Binding) (a : Assigned) :
    (loop names pg a bs).Pairwise (fun r1 r2 =>
      r2.renamed = true → (∃ ns, ns ∈ r1.b.scope ∧ ns ∈ r2.b.scope) → r1.final.isSome → r1.final ≠ r2.final) := by
  refine (loop_pairwise names pg bs a).imp ?_
  rintro r1 _ ⟨a1, b1, a2, b2, -, -, hs, -, rfl⟩
  exact renamed_after hs

/-- T03.1 for one pair of results -/
def NoNewClash (r1 r2 : Result) : Prop :=
  (r1.renamed = true ∨ r2.renamed = true) → r1.exhausted = false → r2.exhausted = false →
    (∃ ns, ns ∈ r1.b.scope ∧ ns ∈ r2.b.scope) → r1.final.isSome → r1.final ≠ r2.final

theorem steps_no_clash {names : List String} {pg : Bool} {a1 a2 : Assigned} {b1 b2 : Binding}
    (hs : Sub (after a1 (decide1 names pg a1 b1)) a2) (hwf : WFB b2 = true)
    (hrec : ∀ n, b2.reserved = some n → ∀ ns ∈ b2.scope, n ∈ a1 ns) :
    NoNewClash (decide1 names pg a1 b1) (decide1 names pg a2 b2) := by
  intro hor hx1 hx2 hns hsome
  by_cases hren2 : (decide1 names pg a2 b2).renamed = true
  · exact renamed_after hs hren2 hns hsome
  · -- the later binding kept its name `n`; then the earlier one was renamed to `n`, which is therefore not recorded
    -- in `a1`: not reserved for the later binding, so still free for it in `a2` — but the earlier one recorded it
    obtain ⟨ns, h1, h2⟩ := hns
    obtain ⟨n, hn⟩ := Option.isSome_iff_exists.mp hsome
    have hn2 : n ∈ a2 ns := hs ns n (mem_after.mpr (.inl ⟨h1, hn⟩))
    rw [decide1_b] at h1 h2
    rw [hn]
    intro heq
    obtain ⟨hfin, hmust⟩ := decide1_kept (Bool.eq_false_iff.mpr hren2) hx2
    rcases kept_name hwf (hfin.symm.trans heq.symm) hmust with hres | hav
    · exact decide1_fresh (hor.resolve_right hren2) h1 (hrec n hres ns h2) hn
    · exact avail_iff.mp hav ns h2 hn2

theorem loop_no_new_clash (names : List String) (pg : Bool) (bs : List Binding) (a : Assigned)
    (hwf : ∀ b ∈ bs, WFB b = true) (hrec : ∀ b ∈ bs, ∀ n, b.reserved = some n → ∀ ns ∈ b.scope, n ∈ a ns) :
    (loop names pg a bs).Pairwise NoNewClash := by
  refine (loop_pairwise names pg bs a).imp ?_
  rintro _ _ ⟨a1, b1, a2, b2, hb2, hs1, hs, rfl, rfl⟩
  exact steps_no_clash hs (hwf b2 hb2) fun n hn ns hns => hs1 ns n (hrec b2 hb2 n hn ns hns)

theorem mem_sortBindings {b : Binding} {bs : List Binding} : b ∈ sortBindings bs ↔ b ∈ bs :=
  (List.mergeSort_perm _ _).mem_iff

/-- T03.1 for the whole assigner, in processing order (which covers every unordered pair). -/
theorem assign_no_new_clash (names : List String) (pg : Bool) (moduleNs : Ns) (rg : List String)
    (bindings : List Binding) (hwf : ∀ b ∈ bindings, WFB b = true) :
    (assign names pg moduleNs rg bindings).Pairwise NoNewClash :=
  -- the reservations made before the loop record every reserved name throughout its binding's scope
  loop_no_new_clash _ _ _ _ (fun b hb => hwf b (mem_sortBindings.mp hb))
    fun b hb _ hr _ hns => mem_initial.mpr (.inr ⟨b, mem_sortBindings.mp hb, hr, hns⟩)

theorem assign_mem_b {names : List String} {pg : Bool} {moduleNs : Ns} {rg : List String} {bindings : List Binding} {r : Result}
    (h : r ∈ assign names pg moduleNs rg bindings) : r.b ∈ bindings := by
  obtain ⟨_, b, hb, _, rfl⟩ := mem_loop h
  rw [decide1_b]; exact mem_sortBindings.mp hb

end PMV.Rename
