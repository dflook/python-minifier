import PMV.Spec.Lex
namespace PMV.Spec.Lex
open PMV.Token

theorem mem_allTokTypes (p : TokType) : p ∈ allTokTypes := by cases p <;> decide
theorem mem_nextAll (n : Next) : n ∈ Next.all := by cases n <;> decide

theorem code_push_spaceIf (st : St) (b : Bool) (s : String) (t : TokType) :
    (push (spaceIf st b) s t).code = s.toList.reverse ++ (if b then ' ' :: st.code else st.code) := by
  cases b <;> rfl

theorem step_code (sp : Spacing) (st : St) (tok : Tok) (hl : isLayout tok = false) :
    (step sp st tok).code =
      (text tok).toList.reverse ++ (if separates sp st.prev (nextOf tok) then ' ' :: st.code else st.code) := by
  cases tok with
  | ident s | kw s | num s | fstr s => exact code_push_spaceIf _ _ _ _
  | strLit r | bytesLit r =>
    refine (code_push_spaceIf _ _ _ _).trans
      (?_ : _ = _ ++ if separates sp st.prev (if startsAlpha r then _ else _) then _ else _)
    cases startsAlpha r <;> rfl
  | delim s | op s => rfl
  | newline | indentInc | indentDec | endStmt => cases hl

/-- T02.3 (parametric): if the spacing lists satisfy `SpacingOK`, then whenever the tokenizer would
    glue the next token to the previous one, `step` emits a space between them. -/
theorem step_separates (sp : Spacing) (h : SpacingOK sp = true) (st : St) (tok : Tok)
    (hl : isLayout tok = false) (hg : glues st.prev (nextOf tok) = true) :
    (step sp st tok).code = (text tok).toList.reverse ++ ' ' :: st.code := by
  have hsep : separates sp st.prev (nextOf tok) = true := by
    have := List.all_eq_true.mp (List.all_eq_true.mp h st.prev (mem_allTokTypes _)) (nextOf tok) (mem_nextAll _)
    simpa [hg] using this
  rw [step_code sp st tok hl, hsep, if_pos rfl]

/-- T02.3, the other half: a non-layout token only appends; what was already emitted is never changed. -/
theorem step_appends (sp : Spacing) (st : St) (tok : Tok) (hl : isLayout tok = false) :
    (step sp st tok).code = (text tok).toList.reverse ++ st.code ∨
    (step sp st tok).code = (text tok).toList.reverse ++ ' ' :: st.code := by
  rw [step_code sp st tok hl]
  split
  · exact .inr rfl
  · exact .inl rfl

end PMV.Spec.Lex
