import PMV.Spec.Layout
/-
  `Run A` leaves the condition on the single tokens open: headers and patterns that visit a `yield` as a statement (`LayoutHdr`)
  contain one layout token, the statement end, and are still balanced.
-/
namespace PMV.Spec.Layout
open PMV PMV.Token PMV.Printer

inductive Bal : List Tok → Prop
  | nil : Bal []
  | tok (t : Tok) (h : ∀ s, t ≠ .delim s) : Bal [t]
  | delim (s : String) (h : s ≠ "(" ∧ s ≠ ")" ∧ s ≠ "[" ∧ s ≠ "]" ∧ s ≠ "{" ∧ s ≠ "}") : Bal [.delim s]
  | paren {xs : List Tok} : Bal xs → Bal (.delim "(" :: xs ++ [.delim ")"])
  | brack {xs : List Tok} : Bal xs → Bal (.delim "[" :: xs ++ [.delim "]"])
  | brace {xs : List Tok} : Bal xs → Bal (.delim "{" :: xs ++ [.delim "}"])
  | append {a b : List Tok} : Bal a → Bal b → Bal (a ++ b)

def BalAll (xs : List (List Tok)) : Prop := ∀ x ∈ xs, Bal x
def BalOpts (xs : List (Option (List Tok))) : Prop := ∀ x ∈ xs, ∀ y, x = some y → Bal y

theorem Bal.bar {xs : List Tok} (hx : Bal xs) : Bal (.delim "|" :: xs) := Bal.append (Bal.delim _ (by simp)) hx

theorem Bal.brack_then {xs ys : List Tok} (hx : Bal xs) (hy : Bal ys) : Bal (.delim "[" :: xs ++ .delim "]" :: ys) := by
  simpa [List.append_assoc] using Bal.append (Bal.brack hx) hy

theorem BalAll.append {a b : List (List Tok)} (ha : BalAll a) (hb : BalAll b) : BalAll (a ++ b) :=
  fun y hy => (List.mem_append.mp hy).elim (ha y) (hb y)

theorem Bal.snoc_close {o c : String} {xs : List Tok} (h : Bal (.delim o :: xs ++ [.delim c])) : Bal (.delim o :: (xs ++ [.delim c])) := by
  simpa using h

def nlayAll (xs : List (List Tok)) : Bool := xs.all nlay
def nlayOpts (xs : List (Option (List Tok))) : Bool := xs.all fun o => match o with | some x => nlay x | none => true

@[simp] theorem nlayAll_nil : nlayAll [] = true := rfl
@[simp] theorem nlayAll_cons (x : List Tok) (xs : List (List Tok)) : nlayAll (x :: xs) = (nlay x && nlayAll xs) := by simp [nlayAll]
@[simp] theorem nlayAll_append (a b : List (List Tok)) : nlayAll (a ++ b) = (nlayAll a && nlayAll b) := by simp [nlayAll]
@[simp] theorem nlayOpts_nil : nlayOpts [] = true := rfl
@[simp] theorem nlayOpts_cons_some (x : List Tok) (xs) : nlayOpts (some x :: xs) = (nlay x && nlayOpts xs) := by simp [nlayOpts]
@[simp] theorem nlayOpts_cons_none (xs) : nlayOpts (none :: xs) = nlayOpts xs := by simp [nlayOpts]

def Run (A : Tok → Prop) (xs : List Tok) : Prop := Bal xs ∧ ∀ x ∈ xs, A x
def RunAll (A : Tok → Prop) (xs : List (List Tok)) : Prop := ∀ x ∈ xs, Run A x
def RunOpts (A : Tok → Prop) (xs : List (Option (List Tok))) : Prop := ∀ y, some y ∈ xs → Run A y

/-- `A` holds of every token that is not a layout token: `A := (isLayout · = false)` makes a run `nlay`, `A := True` keeps only
    the balance -/
def Real (A : Tok → Prop) : Prop := ∀ t, Spec.Lex.isLayout t = false → A t

theorem Real.real : Real fun t => Spec.Lex.isLayout t = false := fun _ h => h
theorem Real.any : Real fun _ => True := fun _ _ => trivial

theorem Run.nlay {xs : List Tok} (h : Run (fun t => Spec.Lex.isLayout t = false) xs) : nlay xs = true :=
  List.all_eq_true.mpr fun x hx => by simp [h.2 x hx]
theorem RunAll.nlayAll {xs : List (List Tok)} (h : RunAll (fun t => Spec.Lex.isLayout t = false) xs) : nlayAll xs = true :=
  List.all_eq_true.mpr fun x hx => (h x hx).nlay
theorem RunOpts.nlayOpts {xs : List (Option (List Tok))} (h : RunOpts (fun t => Spec.Lex.isLayout t = false) xs) : nlayOpts xs = true :=
  List.all_eq_true.mpr fun x hx => by cases x with | none => rfl | some y => exact (h y hx).nlay
theorem RunAll.balAll {A : Tok → Prop} {xs : List (List Tok)} (h : RunAll A xs) : BalAll xs := fun x hx => (h x hx).1
theorem RunOpts.balOpts {A : Tok → Prop} {xs : List (Option (List Tok))} (h : RunOpts A xs) : BalOpts xs :=
  fun _ hx y e => (h y (e ▸ hx)).1

section
variable {A : Tok → Prop} {xs ys : List Tok}

theorem Run.nil : Run A [] := ⟨.nil, fun _ h => nomatch h⟩
theorem Run.append (hx : Run A xs) (hy : Run A ys) : Run A (xs ++ ys) :=
  ⟨.append hx.1 hy.1, fun x h => (List.mem_append.mp h).elim (hx.2 x) (hy.2 x)⟩
theorem Run.cons {t : Tok} (hb : Bal [t]) (ha : A t) (hx : Run A xs) : Run A (t :: xs) :=
  Run.append (xs := [t]) ⟨hb, fun _ h => by cases List.mem_singleton.mp h; exact ha⟩ hx

theorem RunAll.nil : RunAll A [] := fun _ h => nomatch h
theorem RunAll.cons {x : List Tok} {l : List (List Tok)} (hx : Run A x) (hl : RunAll A l) : RunAll A (x :: l) :=
  fun y hy => (List.mem_cons.mp hy).elim (fun e => e ▸ hx) (hl y)
theorem RunAll.append {a b : List (List Tok)} (ha : RunAll A a) (hb : RunAll A b) : RunAll A (a ++ b) :=
  fun y hy => (List.mem_append.mp hy).elim (ha y) (hb y)
theorem RunAll.map {α : Type} (f : α → List Tok) (l : List α) (h : ∀ x, Run A (f x)) : RunAll A (l.map f) := fun y hy => by
  obtain ⟨x, _, rfl⟩ := List.mem_map.mp hy
  exact h x
theorem RunAll.head {x : List Tok} {l : List (List Tok)} (h : RunAll A (x :: l)) : Run A x := h x List.mem_cons_self
theorem RunAll.tail {x : List Tok} {l : List (List Tok)} (h : RunAll A (x :: l)) : RunAll A l := fun y hy => h y (List.mem_cons_of_mem _ hy)

theorem RunOpts.nil : RunOpts A [] := fun _ h => nomatch h
theorem RunOpts.cons_none {l : List (Option (List Tok))} (hl : RunOpts A l) : RunOpts A (none :: l) :=
  fun y hy => (List.mem_cons.mp hy).elim (fun e => nomatch e) (hl y)
theorem RunOpts.cons_some {x : List Tok} {l : List (Option (List Tok))} (hx : Run A x) (hl : RunOpts A l) : RunOpts A (some x :: l) :=
  fun y hy => (List.mem_cons.mp hy).elim (fun e => by cases e; exact hx) (hl y)
theorem RunOpts.head {x : List Tok} {l : List (Option (List Tok))} (h : RunOpts A (some x :: l)) : Run A x := h x List.mem_cons_self
theorem RunOpts.tail {x : Option (List Tok)} {l : List (Option (List Tok))} (h : RunOpts A (x :: l)) : RunOpts A l :=
  fun y hy => h y (List.mem_cons_of_mem _ hy)

theorem Run.wrap {o c : Tok} (hb : Bal (o :: xs ++ [c])) (ho : A o) (hc : A c) (hx : Run A xs) : Run A (o :: xs ++ [c]) :=
  ⟨hb, List.forall_mem_cons.mpr ⟨ho, List.forall_mem_append.mpr ⟨hx.2, List.forall_mem_singleton.mpr hc⟩⟩⟩

theorem joinWith_run (sep : Tok) (hs : Run A [sep]) : (l : List (List Tok)) → RunAll A l → Run A (joinWith sep l)
  | [] => fun _ => .nil
  | [_] => fun h => h.head
  | _ :: y :: rest => fun h => h.head.append (hs.append (joinWith_run sep hs (y :: rest) h.tail))

theorem commaSep_eq : (l : List (List Tok)) → commaSep l = joinWith (.delim ",") l
  | [] => rfl
  | [_] => rfl
  | x :: y :: rest => congrArg (x ++ .delim "," :: ·) (commaSep_eq (y :: rest))

variable (hA : Real A)
include hA

theorem Run.tok (t : Tok) (h : Spec.Lex.isLayout t = false) (hb : ∀ s, t ≠ .delim s) (hx : Run A xs) : Run A (t :: xs) :=
  .cons (.tok t hb) (hA t h) hx
theorem Run.kw (k : String) (hx : Run A xs) : Run A (.kw k :: xs) := .tok hA _ rfl (fun _ e => nomatch e) hx
theorem Run.op (k : String) (hx : Run A xs) : Run A (.op k :: xs) := .tok hA _ rfl (fun _ e => nomatch e) hx
theorem Run.ident (k : String) (hx : Run A xs) : Run A (.ident k :: xs) := .tok hA _ rfl (fun _ e => nomatch e) hx
theorem Run.sym (s : String) (h : s ≠ "(" ∧ s ≠ ")" ∧ s ≠ "[" ∧ s ≠ "]" ∧ s ≠ "{" ∧ s ≠ "}") (hx : Run A xs) : Run A (.delim s :: xs) :=
  .cons (.delim s h) (hA _ rfl) hx
theorem Run.comma (hx : Run A xs) : Run A (.delim "," :: xs) := .sym hA _ (by simp) hx
theorem Run.colon (hx : Run A xs) : Run A (.delim ":" :: xs) := .sym hA _ (by simp) hx
theorem Run.eq (hx : Run A xs) : Run A (.delim "=" :: xs) := .sym hA _ (by simp) hx
theorem Run.dot (hx : Run A xs) : Run A (.delim "." :: xs) := .sym hA _ (by simp) hx

theorem Run.paren (hx : Run A xs) : Run A (.delim "(" :: xs ++ [.delim ")"]) := .wrap (.paren hx.1) (hA _ rfl) (hA _ rfl) hx
theorem Run.brack (hx : Run A xs) : Run A (.delim "[" :: xs ++ [.delim "]"]) := .wrap (.brack hx.1) (hA _ rfl) (hA _ rfl) hx
theorem Run.brace (hx : Run A xs) : Run A (.delim "{" :: xs ++ [.delim "}"]) := .wrap (.brace hx.1) (hA _ rfl) (hA _ rfl) hx

theorem commaSep_run (l : List (List Tok)) (h : RunAll A l) : Run A (commaSep l) :=
  commaSep_eq l ▸ joinWith_run _ (.comma hA .nil) l h

theorem dictItems_run : (ks : List (Option (List Tok))) → (vs : List (List Tok)) → RunOpts A ks → RunAll A vs → RunAll A (dictItems ks vs)
  | [], _ | none :: _, [] | some _ :: _, [] => fun _ _ => .nil
  | none :: ks, _ :: vs => fun hk hv => .cons (.op hA _ hv.head) (dictItems_run ks vs hk.tail hv.tail)
  | some _ :: ks, _ :: vs => fun hk hv => .cons (hk.head.append (.colon hA hv.head)) (dictItems_run ks vs hk.tail hv.tail)

theorem tupleToks_run : (l : List (List Tok)) → RunAll A l → Run A (tupleToks l)
  | [] => fun _ => .paren hA .nil
  | [_] => fun h => h.head.append (.comma hA .nil)
  | _ :: _ :: _ => fun h => commaSep_run hA _ h

/-- `,/` after the last positional-only parameter -/
theorem slash_run (p : Nat) : Run A (if (p == 1) = true then [Tok.delim ",", .op "/"] else []) := by
  split
  · exact .comma hA (.op hA _ .nil)
  · exact .nil

theorem posArgToks_run : (as : List (List Tok)) → (n : Nat) → (ds : List (List Tok)) → (p : Nat) → RunAll A as → RunAll A ds →
    RunAll A (posArgToks as n ds p)
  | [], _, _, _ => fun _ _ => .nil
  | _ :: as, 0, _ :: ds, p => fun ha hd =>
    .cons ((ha.head.append (.eq hA hd.head)).append (slash_run hA p)) (posArgToks_run as 0 ds (p - 1) ha.tail hd.tail)
  | _ :: as, 0, [], p => fun ha hd => .cons (ha.head.append (slash_run hA p)) (posArgToks_run as 0 [] (p - 1) ha.tail hd)
  | _ :: as, n + 1, ds, p => fun ha hd => .cons (ha.head.append (slash_run hA p)) (posArgToks_run as n ds (p - 1) ha.tail hd)

theorem kwOnlyToks_run : (as : List (List Tok)) → (ds : List (Option (List Tok))) → RunAll A as → RunOpts A ds → Run A (kwOnlyToks as ds)
  | [], _ => fun _ _ => .nil
  | _ :: as, none :: ds => fun ha hd => ((Run.comma hA ha.head).append .nil).append (kwOnlyToks_run as ds ha.tail hd.tail)
  | _ :: as, some _ :: ds => fun ha hd => ((Run.comma hA ha.head).append (.eq hA hd.head)).append (kwOnlyToks_run as ds ha.tail hd.tail)
  | _ :: as, [] => fun ha _ => (Run.comma hA ha.head).append (kwOnlyToks_run as [] ha.tail .nil)

theorem async_run (a : Bool) (h : Run A xs) : Run A ((if a then [Tok.kw "async"] else []) ++ xs) := by
  cases a
  · exact h
  · exact .kw hA _ h

theorem binOpTok_run (op : BinOpK) : Run A [binOpTok op] := by cases op <;> exact .op hA _ .nil
theorem unaryOpTok_run (op : UnaryOpK) : Run A [unaryOpTok op] := by
  cases op with
  | not_ => exact .kw hA _ .nil
  | _ => exact .op hA _ .nil
theorem boolOpTok_run (op : BoolOpK) : Run A [boolOpTok op] := by cases op <;> exact .kw hA _ .nil
theorem cmpOpToks_run (op : CmpOpK) : Run A (cmpOpToks op) := by
  cases op with
  | is_ | in_ => exact .kw hA _ .nil
  | isNot | notIn => exact .kw hA _ (.kw hA _ .nil)
  | _ => exact .op hA _ .nil
theorem constToks_run (c : Const) : Run A (constToks c) := by
  cases c with
  | none | true_ | false_ => exact .kw hA _ .nil
  | ellipsis => exact .dot hA (.dot hA (.dot hA .nil))
  | _ => exact .tok hA _ rfl (fun _ e => nomatch e) .nil

/-- the call printer: a sole generator argument loses its own parentheses -/
theorem flat_call_run (f : Expr) (as : List Expr) (ks : List Keyword) (h1 : Run A (flat f))
    (h3 : RunAll A (flatEach as)) (h4 : RunAll A (flatKeywords ks)) : Run A (flat (.call f as ks)) := by
  by_cases hg : ∃ e gs, as = [.generatorExp e gs] ∧ ks = []
  · obtain ⟨e, gs, rfl, rfl⟩ := hg
    have hg : Run A (flat (.generatorExp e gs)) := h3.head
    simp only [flat] at hg ⊢
    simpa [List.append_assoc] using h1.append hg
  · rw [flat]
    · simpa [List.append_assoc] using h1.append (.paren hA (commaSep_run hA _ (h3.append h4)))
    · exact fun e gs ha hk => hg ⟨e, gs, ha, hk⟩

end

section
variable {A : Tok → Prop}

mutual
theorem flat_run (hA : Real A) : (e : Expr) → Run A (flat e)
  | .boolOp op vs => joinWith_run _ (boolOpTok_run hA op) _ (flatEach_run hA vs)
  | .namedExpr tg v => (flat_run hA tg).append (.op hA _ (flat_run hA v))
  | .binOp l op r => (flat_run hA l).append ((binOpTok_run hA op).append (flat_run hA r))
  | .unaryOp op v => (unaryOpTok_run hA op).append (flat_run hA v)
  | .lambda a b => (Run.kw hA "lambda" (flatArguments_run hA a)).append (.colon hA (flat_run hA b))
  | .ifExp c b o => ((flat_run hA b).append (.kw hA "if" (flat_run hA c))).append (.kw hA "else" (flat_run hA o))
  | .dict ks vs => .brace hA (commaSep_run hA _ (dictItems_run hA _ _ (flatOptEach_run hA ks) (flatEach_run hA vs)))
  | .set es => .brace hA (commaSep_run hA _ (flatEach_run hA es))
  | .listComp e gs => .brack hA ((flat_run hA e).append (flatComps_run hA gs))
  | .setComp e gs => .brace hA ((flat_run hA e).append (flatComps_run hA gs))
  | .dictComp k v gs => .brace hA (((flat_run hA k).append (.colon hA (flat_run hA v))).append (flatComps_run hA gs))
  | .generatorExp e gs => .paren hA ((flat_run hA e).append (flatComps_run hA gs))
  | .await v => .kw hA _ (flat_run hA v)
  | .yield v => .kw hA _ (flatOpt_run hA v)
  | .yieldFrom v => .kw hA _ (.kw hA _ (flat_run hA v))
  | .compare l ops cs => (flat_run hA l).append (flatCompareRest_run hA ops cs)
  | .call f as ks => flat_call_run hA f as ks (flat_run hA f) (flatEach_run hA as) (flatKeywords_run hA ks)
  | .joinedStr s ps => .tok hA _ rfl (fun _ e => nomatch e) .nil
  | .constant c => constToks_run hA c
  | .attribute v a => (flat_run hA v).append (.dot hA (.ident hA _ .nil))
  | .subscript v s => by
    have := (flat_run hA v).append (.brack hA (flat_run hA s))
    rwa [← List.append_assoc] at this
  | .starred v => .op hA _ (flat_run hA v)
  | .name i c => .ident hA _ .nil
  | .list es => .brack hA (commaSep_run hA _ (flatEach_run hA es))
  | .tuple es => tupleToks_run hA _ (flatEach_run hA es)
  | .slice l u none => ((flatOpt_run hA l).append (.colon hA (flatOpt_run hA u))).append .nil
  | .slice l u (some x) => ((flatOpt_run hA l).append (.colon hA (flatOpt_run hA u))).append (.colon hA (flat_run hA x))
  | .paren e => .paren hA (flat_run hA e)
theorem flatEach_run (hA : Real A) : (es : List Expr) → RunAll A (flatEach es)
  | [] => .nil
  | e :: es => .cons (flat_run hA e) (flatEach_run hA es)
theorem flatOpt_run (hA : Real A) : (e : Option Expr) → Run A (flatOpt e)
  | none => .nil
  | some e => flat_run hA e
theorem flatCompareRest_run (hA : Real A) : (ops : List CmpOpK) → (cs : List Expr) → Run A (flatCompareRest ops cs)
  | [], [] | [], _ :: _ | _ :: _, [] => .nil
  | o :: os, c :: cs => ((cmpOpToks_run hA o).append (flat_run hA c)).append (flatCompareRest_run hA os cs)
theorem flatOptEach_run (hA : Real A) : (es : List (Option Expr)) → RunOpts A (flatOptEach es)
  | [] => .nil
  | none :: es => .cons_none (flatOptEach_run hA es)
  | some e :: es => .cons_some (flat_run hA e) (flatOptEach_run hA es)
theorem flatArgs_run (hA : Real A) : (as : List Arg) → RunAll A (flatArgs as)
  | [] => .nil
  | a :: as => .cons (flatArg_run hA a) (flatArgs_run hA as)
theorem flatKeyword_run (hA : Real A) : (k : Keyword) → Run A (flatKeyword k)
  | .mk none v => .op hA _ (flat_run hA v)
  | .mk (some _) v => .ident hA _ (.eq hA (flat_run hA v))
theorem flatKeywords_run (hA : Real A) : (ks : List Keyword) → RunAll A (flatKeywords ks)
  | [] => .nil
  | k :: ks => .cons (flatKeyword_run hA k) (flatKeywords_run hA ks)
theorem flatComps_run (hA : Real A) : (gs : List Comprehension) → Run A (flatComps gs)
  | [] => .nil
  | .mk tg it ifs a :: gs =>
    (((async_run hA a (.kw hA "for" (flat_run hA tg))).append (.kw hA "in" (flat_run hA it))).append
      (flatCompIfs_run hA ifs)).append (flatComps_run hA gs)
theorem flatCompIfs_run (hA : Real A) : (cs : List Expr) → Run A (flatCompIfs cs)
  | [] => .nil
  | c :: cs => (Run.kw hA "if" (flat_run hA c)).append (flatCompIfs_run hA cs)
theorem flatArg_run (hA : Real A) : (a : Arg) → Run A (flatArg a)
  | .mk _ none => .ident hA _ .nil
  | .mk _ (some ann) => .ident hA _ (.colon hA (flat_run hA ann))
theorem flatArguments_run (hA : Real A) : (a : Arguments) → Run A (flatArguments a)
  | .mk po as va ko kd kw ds => by
    have hpos : RunAll A (flatArgs po ++ flatArgs as) := (flatArgs_run hA po).append (flatArgs_run hA as)
    have hitems := posArgToks_run hA (flatArgs po ++ flatArgs as) ((flatArgs po ++ flatArgs as).length - ds.length) (flatEach ds) po.length hpos (flatEach_run hA ds)
    have hkwo := kwOnlyToks_run hA (flatArgs ko) (flatOptEach kd) (flatArgs_run hA ko) (flatOptEach_run hA kd)
    unfold flatArguments
    apply commaSep_run hA
    refine (hitems.append ?_).append ?_
    · cases va with
      | none =>
        by_cases hk : ko.isEmpty = true
        · simp only [hk, if_true]; exact .nil
        · simp only [hk, Bool.false_eq_true, if_false]; exact .cons (.op hA _ hkwo) .nil
      | some v =>
        exact .cons ((Run.op hA "*" (flatArg_run hA v)).append hkwo) .nil
    · cases kw with
      | none => exact .nil
      | some k => exact .cons (.op hA _ (flatArg_run hA k)) .nil
end

end

theorem flat_nlay : (e : Expr) → nlay (flat e) = true := fun e => (flat_run .real e).nlay
theorem flatEach_nlay : (es : List Expr) → nlayAll (flatEach es) = true := fun es => (flatEach_run .real es).nlayAll
theorem flatOpt_nlay : (e : Option Expr) → nlay (flatOpt e) = true := fun e => (flatOpt_run .real e).nlay
theorem flatCompareRest_nlay : (ops : List CmpOpK) → (cs : List Expr) → nlay (flatCompareRest ops cs) = true :=
  fun ops cs => (flatCompareRest_run .real ops cs).nlay
theorem flatOptEach_nlay : (es : List (Option Expr)) → nlayOpts (flatOptEach es) = true := fun es => (flatOptEach_run .real es).nlayOpts
theorem flatArgs_nlay : (as : List Arg) → nlayAll (flatArgs as) = true := fun as => (flatArgs_run .real as).nlayAll
theorem flatKeyword_nlay : (k : Keyword) → nlay (flatKeyword k) = true := fun k => (flatKeyword_run .real k).nlay
theorem flatKeywords_nlay : (ks : List Keyword) → nlayAll (flatKeywords ks) = true := fun ks => (flatKeywords_run .real ks).nlayAll
theorem flatComps_nlay : (gs : List Comprehension) → nlay (flatComps gs) = true := fun gs => (flatComps_run .real gs).nlay
theorem flatCompIfs_nlay : (cs : List Expr) → nlay (flatCompIfs cs) = true := fun cs => (flatCompIfs_run .real cs).nlay
theorem flatArg_nlay : (a : Arg) → nlay (flatArg a) = true := fun a => (flatArg_run .real a).nlay

theorem flat_bal (e : Expr) : Bal (flat e) := (flat_run .any e).1
theorem flatEach_bal : (es : List Expr) → BalAll (flatEach es) := fun es => (flatEach_run .any es).balAll
theorem flatOpt_bal : (e : Option Expr) → Bal (flatOpt e) := fun e => (flatOpt_run .any e).1
theorem flatCompareRest_bal : (ops : List CmpOpK) → (cs : List Expr) → Bal (flatCompareRest ops cs) :=
  fun ops cs => (flatCompareRest_run .any ops cs).1
theorem flatOptEach_bal : (es : List (Option Expr)) → BalOpts (flatOptEach es) := fun es => (flatOptEach_run .any es).balOpts
theorem flatArgs_bal : (as : List Arg) → BalAll (flatArgs as) := fun as => (flatArgs_run .any as).balAll
theorem flatKeyword_bal : (k : Keyword) → Bal (flatKeyword k) := fun k => (flatKeyword_run .any k).1
theorem flatKeywords_bal : (ks : List Keyword) → BalAll (flatKeywords ks) := fun ks => (flatKeywords_run .any ks).balAll
theorem flatComps_bal : (gs : List Comprehension) → Bal (flatComps gs) := fun gs => (flatComps_run .any gs).1
theorem flatCompIfs_bal : (cs : List Expr) → Bal (flatCompIfs cs) := fun cs => (flatCompIfs_run .any cs).1
theorem flatArg_bal : (a : Arg) → Bal (flatArg a) := fun a => (flatArg_run .any a).1

end PMV.Spec.Layout
