import PMV.Proofs.PyCoreMap
import PMV.Model.Scope
/-
  Removing annotations refines the behaviour.  In the core an annotated name inside a function is assigned like a plain one
  (the annotation of a local is not evaluated), a value-less annotation only makes the name local (the transform keeps it as
  `x: 0`), and a `def` with annotated parameters or a return annotation — evaluated when the `def` runs — is outside the
  core, as is an annotated assignment at module level.
-/
namespace PMV.PyCore
open PMV PMV.Transforms

variable {o : Bool}

def annFT (a : AnnOpts) : FTab → FTab
  | [] => []
  | (f, ps, b) :: rest => (f, ps, annBody a none b) :: annFT a rest

/-- at least the functions of `ft`, transformed: a `def` that lost its annotations may only now be one the table holds -/
def TabLe (a : AnnOpts) (ft ft' : FTab) : Prop :=
  ∀ f ps b, ft.lookup f = some (ps, b) → ft'.lookup f = some (ps, annBody a none b)

/-- outside a class, with `variables` on: `x: T = e` becomes `x = e`, and `x: T` becomes `x: 0` -/
theorem annStmt_annAssign (a : AnnOpts) (tg ann : Expr) (v : Option Expr) (simple : Bool) :
    annStmt a none (.annAssign tg ann v simple) =
      if a.variables then (match v with | some e => .assign [tg] e | none => .annAssign tg (.constant (.int 0)) none simple)
      else .annAssign tg ann v simple := by
  rw [annStmt]; unfold annAssign annEnabled annExempt; cases a.variables <;> rfl

theorem globalsOf_ann (a : AnnOpts) (st : Stmt) : globalsOf (annStmt a none st) = globalsOf st := by
  cases st with
  | annAssign tg ann v simple => rw [annStmt_annAssign]; cases a.variables <;> cases v <;> rfl
  | _ => rfl

theorem annBody_eq_map (a : AnnOpts) : ∀ l : List Stmt, annBody a none l = l.map (annStmt a none)
  | [] => rfl
  | st :: rest => congrArg (annStmt a none st :: ·) (annBody_eq_map a rest)

/-! An implication, not an equation: with `variables` on, `x: T` becomes `x: 0` and `x: T = e` becomes `x = e`, so a
statement that `bindS` rejects because of `T` (`coreE T = false`) may come to be accepted. -/

mutual
theorem bindS_ann (a : AnnOpts) : (st : Stmt) → (l : List String) → bindS st = some l → bindS (annStmt a none st) = some l
  | .annAssign tg ann v simple => fun l h => by
    rw [annStmt_annAssign]
    cases a.variables with
    | false => exact h
    | true =>
      simp only [bindS] at h
      cases hn : nameOf tg with
      | none => simp [hn] at h
      | some p =>
        obtain ⟨x, c⟩ := p
        simp only [hn] at h
        obtain ⟨hg, hl⟩ := oguard_some h
        simp only [Option.some.injEq] at hl
        simp only [Bool.and_eq_true] at hg
        cases nameOf_some tg x c hn
        cases v with
        | none => simp [bindS, nameOf, oguard, hg.1.1, coreE, hl]
        | some e => simp [bindS, assignTarget, oguard, coreX_of_coreE e hg.2, hl]
  | .if_ _ body orelse | .while_ _ body orelse => oguard_mono (oapp_mono (bindL_ann a body) (bindL_ann a orelse))
  | .for_ false tg it body orelse => by
    simp only [annStmt, bindS]
    cases forRange tg it with
    | none => exact fun _ h => h
    | some p => exact oguard_mono (oapp_mono (fun _ h => h) (oapp_mono (bindL_ann a body) (bindL_ann a orelse)))
  | .try_ false body hs orelse fin =>
    oapp_mono (bindL_ann a body) (oapp_mono (bindH_ann a hs) (oapp_mono (bindL_ann a orelse) (bindL_ann a fin)))
  | .for_ true .. | .try_ true .. | .functionDef .. | .classDef .. | .with_ .. | .match_ .. => fun _ h => by simp [bindS] at h
  | .return_ _ | .delete _ | .assign .. | .typeAlias .. | .augAssign .. | .raise_ .. | .assert_ .. | .import_ .. | .importFrom ..
  | .global _ | .nonlocal _ | .expr _ | .pass | .break_ | .continue_ => fun _ h => h
theorem bindL_ann (a : AnnOpts) : (b : List Stmt) → (l : List String) → bindL b = some l → bindL (annBody a none b) = some l
  | [] => fun _ h => h
  | st :: rest => oapp_mono (bindS_ann a st) (bindL_ann a rest)
theorem bindH_ann (a : AnnOpts) : (hs : List Handler) → (l : List String) → bindH hs = some l → bindH (annHandlers a none hs) = some l
  | [] => fun _ h => h
  | .mk _ _ body :: rest => oguard_mono (oapp_mono (bindL_ann a body) (bindH_ann a rest))
end

theorem bindS0_ann (a : AnnOpts) (st : Stmt) (l : List String) (h : bindS0 st = some l) : bindS0 (annStmt a none st) = some l := by
  cases st
  case global => exact h
  all_goals exact bindS0_of_bindS _ (bindS_ann a _ l h)

theorem bindTop_ann (a : AnnOpts) (b : List Stmt) (l : List String) (h : bindTop b = some l) : bindTop (annBody a none b) = some l := by
  rw [bindTop_eq] at h ⊢; rw [annBody_eq_map]; exact obind_mono (bindS0_ann a) b l h

theorem stripArg_plain (a : AnnOpts) : ∀ x : Arg, argPlain x = true → stripArg a x = x
  | .mk _ none, _ => by simp [stripArg]
  | .mk _ (some _), h => by cases h

theorem stripArguments_plain (a : AnnOpts) (args : Arguments) (ps : List String) (h : paramNames args = some ps) :
    stripArguments a args = args := by
  unfold paramNames at h
  split at h
  · rename_i po as
    split at h
    · rename_i hall
      have hfix (l : List Arg) (hl : ∀ x ∈ l, x ∈ po ++ as) : l.map (stripArg a) = l :=
        (List.map_congr_left fun x hx => stripArg_plain a x (List.all_eq_true.mp hall x (hl x hx))).trans (List.map_id l)
      simp only [stripArguments, Option.map_none, List.map_nil]
      rw [hfix po fun _ => List.mem_append_left _, hfix as fun _ => List.mem_append_right _]
    · cases h
  · cases h

theorem exec1_def_leA (a : AnnOpts) (ft ft' : FTab) (n : Nat) (s : St) (isAsync : Bool) (nm : String) (args : Arguments)
    (body : List Stmt) (decs : List Expr) (ret : Option Expr) (tps : List TypeParam) :
    Res.le (exec1 ⟨ft, o⟩ n s (.functionDef isAsync nm args body decs ret tps))
      (exec1 ⟨ft', o⟩ n s (annStmt a none (.functionDef isAsync nm args body decs ret tps))) := by
  simp only [annStmt]
  rw [exec1_simple _ _ _ _ rfl rfl rfl, exec1_simple _ _ _ _ rfl rfl rfl]
  simp only [simpleExec, isPlainDef_functionDef]
  -- a `def` with annotated parameters or a return annotation is outside the core; any other keeps its header
  cases hps : paramNames args with
  | none => exact Or.inl (by simp)
  | some ps =>
    rw [stripArguments_plain a args ps hps, hps]
    cases ret with
    | none => simp only [ite_self]; exact Res.le_refl _
    | some r => exact Or.inl (by simp [plainHead])

theorem exec1_annAssign_leA (a : AnnOpts) (ft ft' : FTab) (n : Nat) (s : St) (tg ann : Expr) (v : Option Expr) (simple : Bool) :
    Res.le (exec1 ⟨ft, o⟩ n s (.annAssign tg ann v simple)) (exec1 ⟨ft', o⟩ n s (annStmt a none (.annAssign tg ann v simple))) := by
  rw [annStmt_annAssign]
  cases a.variables with
  | false =>
    rw [exec1_simple _ _ _ _ rfl rfl rfl, exec1_simple _ _ _ _ rfl rfl rfl]
    exact Res.le_refl _
  | true =>
    rw [exec1_simple _ _ _ _ rfl rfl rfl]
    simp only [simpleExec, if_true]
    by_cases hc : (s.locals.isSome && simple) = true
    · simp only [hc, if_true]
      cases hn : nameOf tg with
      | none => left; rfl
      | some p =>
        obtain ⟨x, c⟩ := p
        cases nameOf_some tg x c hn
        cases v with
        | none =>
          right
          rw [exec1_simple _ _ _ _ rfl rfl rfl]
          simp only [simpleExec, hc, if_true, nameOf]
        | some e =>
          simp only
          -- the plain assignment: a call of a table function on the right is outside the core in the annotated form
          cases hcall : asNameCall e with
          | some q =>
            left
            obtain ⟨g, c2, as⟩ := q
            rw [asNameCall_some e g c2 as hcall]
            simp [evalThen, evalE]
          | none =>
            right
            have hco : callOf (.assign [.name x c] e) = none := by
              rw [callOf_assign_eq, hcall]; simp [assignTarget]
            rw [exec1_simple _ _ _ _ rfl rfl hco]
            simp only [simpleExec, assignTarget]
    · simp only [hc, Bool.false_eq_true, if_false]; left; rfl

theorem ann_sim (a : AnnOpts) {ft ft' : FTab} {N : Nat} (hC : SimC (.le o ft ft') N) :
    SimTree (.le o ft ft') N (annStmt a none) (annBody a none) (annHandlers a none) :=
  BlockInd.all {
    if_ := fun _ _ _ hb he => .if_ ValOK.same hb he
    while_ := fun _ _ _ hb he => .while_ ValOK.same hb he
    for_ := fun tg it _ _ hb he => .for_ (.same tg it) hb he
    try_ := fun _ _ _ _ hb hh he hf => .try_ hb hh he hf
    nil := .nil
    cons := fun _ _ h1 hl => .cons h1 hl
    hnil := .nil
    hcons := fun _ _ _ _ hb hr => .cons rfl hb hr
    flat := fun st hst n hn s s' q => by
      cases q
      have same : Res.le (exec1 ⟨ft, o⟩ n s st) (exec1 ⟨ft', o⟩ n s st) := Runs.rel_same.mp (Sim1.same hst hC n hn s s rfl)
      refine Runs.rel_same.mpr (?_ : Res.le (exec1 ⟨ft, o⟩ n s st) (exec1 ⟨ft', o⟩ n s (annStmt a none st)))
      cases st
      case functionDef => exact exec1_def_leA ..
      case annAssign => exact exec1_annAssign_leA ..
      case classDef | with_ | match_ => exact Or.inl (exec1_opaque _ _ _ _ rfl)
      case for_ x _ _ _ _ | try_ x _ _ _ _ =>
        cases x
        · cases hst
        · exact Or.inl (exec1_opaque _ _ _ _ rfl)
      case if_ | while_ => cases hst
      all_goals exact same }

theorem ann_sim_all (a : AnnOpts) (ft ft' : FTab) (hT : TabLe a ft ft') (N : Nat) :
    SimTree (.le o ft ft') N (annStmt a none) (annBody a none) (annHandlers a none) :=
  SimTree.all (fun _ => ann_sim a) (fun _ _ => Or.inl rfl) (fun f ps b hl => by
    refine ⟨annBody a none b, hT f ps b hl, by rw [annBody_eq_map]; exact declaredGlobals_map _ (globalsOf_ann a) b, ?_,
      fun _ _ => rfl⟩
    cases hb : bindTop b with
    | none => exact Or.inl ⟨rfl, rfl⟩
    | some bound => exact Or.inr (by rw [bindTop_ann a b bound hb])) N

def GoodA (o : Bool) (a : AnnOpts) (ft ft' : FTab) (n : Nat) : Prop :=
  (∀ s st, Res.le (exec1 ⟨ft, o⟩ n s st) (exec1 ⟨ft', o⟩ n s (annStmt a none st))) ∧
  (∀ s l, Res.le (execL ⟨ft, o⟩ n s l) (execL ⟨ft', o⟩ n s (annBody a none l)))

theorem execH_leA (a : AnnOpts) (ft ft' : FTab) (hT : TabLe a ft ft') (n : Nat) (ih : ∀ k, k < n → GoodA o a ft ft' k) :
    (hs : List Handler) → (s : St) → (x : String) →
      Res.le (execH ⟨ft, o⟩ n s x hs) (execH ⟨ft', o⟩ n s x (annHandlers a none hs)) :=
  fun hs s x => (ann_sim_all a ft ft' hT n).handlers s x hs

theorem defOf_inv {st : Stmt} {f : String} {ps : List String} {b : List Stmt} (h : defOf st = some (f, ps, b)) :
    ∃ args, st = .functionDef false f args b [] none [] ∧ paramNames args = some ps := by
  unfold defOf at h
  split at h
  · rename_i n args body
    split at h
    · rename_i ps' hps
      cases h; exact ⟨args, rfl, hps⟩
    · cases h
  · cases h

theorem defOf_name (st : Stmt) (f : String) (ps : List String) (b : List Stmt) (h : defOf st = some (f, ps, b)) : defName st = some f := by
  obtain ⟨_, rfl, _⟩ := defOf_inv h; rfl

theorem lookup_collect_defNames : ∀ (l : List Stmt) (f : String) (pb : List String × List Stmt),
    (collect l).lookup f = some pb → f ∈ defNames l
  | [], _, _, h => by simp [collect] at h
  | st :: rest, f, pb, h => by
    simp only [collect] at h
    simp only [defNames, List.mem_append]
    cases hd : defOf st with
    | none => rw [hd] at h; exact Or.inr (lookup_collect_defNames rest f pb h)
    | some e =>
      obtain ⟨g, ps, b⟩ := e
      rw [hd] at h
      simp only [List.lookup] at h
      cases hg : f == g with
      | true => cases beq_iff_eq.mp hg; left; rw [defOf_name st f ps b hd]; simp
      | false => simp only [hg] at h; exact Or.inr (lookup_collect_defNames rest f pb h)

theorem defOf_ann (a : AnnOpts) (st : Stmt) (f : String) (ps : List String) (b : List Stmt) (h : defOf st = some (f, ps, b)) :
    defOf (annStmt a none st) = some (f, ps, annBody a none b) := by
  obtain ⟨args, rfl, hps⟩ := defOf_inv h
  simp only [annStmt, stripArguments_plain a args ps hps, ite_self, defOf, hps]

theorem defName_ann (a : AnnOpts) (st : Stmt) : defName (annStmt a none st) = defName st := by
  cases st with
  | annAssign tg ann v simple => rw [annStmt_annAssign]; cases a.variables <;> cases v <;> rfl
  | _ => rfl

theorem tabLe_collect (a : AnnOpts) : ∀ l : List Stmt, (defNames l).Nodup → TabLe a (collect l) (collect (annBody a none l))
  | [], _ => fun f ps b h => by simp [collect] at h
  | st :: rest, hnd => by
    intro f ps b h
    simp only [defNames] at hnd
    have ih := tabLe_collect a rest (List.nodup_append.mp hnd).2.1
    simp only [annBody, collect] at h ⊢
    cases hd : defOf st with
    | some e =>
      obtain ⟨g, ps0, b0⟩ := e
      rw [hd] at h
      rw [defOf_ann a st g ps0 b0 hd]
      simp only [List.lookup] at h ⊢
      cases hg : f == g with
      | true => simp only [hg] at h; cases h; rfl
      | false => simp only [hg] at h; exact ih f ps b h
    | none =>
      rw [hd] at h
      cases hd' : defOf (annStmt a none st) with
      | none => exact ih f ps b h
      | some e =>
        obtain ⟨g, ps0, b0⟩ := e
        simp only [List.lookup]
        cases hg : f == g with
        | false => exact ih f ps b h
        | true =>
          -- only now is `st` a `def` the table holds: its name is none of those the table had
          cases beq_iff_eq.mp hg
          rw [← defName_ann a st, defOf_name _ f ps0 b0 hd'] at hnd
          exact absurd rfl ((List.nodup_append.mp hnd).2.2 f (by simp) f (lookup_collect_defNames rest f (ps, b) h))

/-- T01.17: annotation removal refines the behaviour of every module whose module-level `def`s have distinct names:
    unless the original run leaves the core, the module without annotations behaves identically, at every fuel. -/
theorem runWith_removeAnnotations (a : AnnOpts) (n : Nat) (m : Module) (hnd : (defNames m.body).Nodup)
    (hcore : (runWith o n m).ending ≠ "stuck") : runWith o n (removeAnnotations a m) = runWith o n m := by
  unfold runWith removeAnnotations at *
  exact observe_le ((ann_sim_all a _ _ (tabLe_collect a m.body hnd) n).list St.init m.body) hcore

theorem run_removeAnnotations (a : AnnOpts) (n : Nat) (m : Module) (hnd : (defNames m.body).Nodup)
    (hcore : (run n m).ending ≠ "stuck") : run n (removeAnnotations a m) = run n m :=
  runWith_removeAnnotations a n m hnd hcore

end PMV.PyCore
