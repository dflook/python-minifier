import PMV.Spec.Rewrites
/-
  C05: a tree transform leaves the canonical form of the documented rewrites (`canonModule c`) unchanged, i.e. its output is its
  input modulo the documented erasure.
-/
namespace PMV.Transforms
open PMV PMV.Spec.Rewrites

theorem filterSuite_cases (q : Stmt → Bool) (m : Bool) (b : List Stmt) :
    filterSuite q m b = b.filter (fun s => !q s) ∨
    (b.filter (fun s => !q s) = [] ∧ m = false ∧ filterSuite q m b = [zeroStmt]) := by
  unfold filterSuite
  cases b.filter (fun s => !q s) with
  | nil => cases m with
    | false => exact .inr ⟨rfl, rfl, rfl⟩
    | true => exact .inl rfl
  | cons => exact .inl rfl

/-- whatever does not tell a lone placeholder from the empty block sees only the filter -/
theorem filterSuite_invariant {α : Sort _} (P : List Stmt → α) (q : Stmt → Bool) (h : P [zeroStmt] = P []) (m : Bool) (b : List Stmt) :
    P (filterSuite q m b) = P (b.filter (fun s => !q s)) := by
  rcases filterSuite_cases q m b with h' | ⟨hnil, _, h'⟩
  · rw [h']
  · rw [h', hnil, h]

/-! `collect`, `declaredGlobals`, `obind f`, running a block and what the canonical form keeps of a block all turn `++` into some
operation `op`.  Such a `P` does not see a statement that it takes for the empty block, and takes `b.flatMap g` for `b` when it takes
`g st` for `[st]`. -/

theorem flatMap_hom {α : Sort _} {P : List Stmt → α} {op : α → α → α} (happ : ∀ a b, P (a ++ b) = op (P a) (P b))
    {g : Stmt → List Stmt} (hg : ∀ st, P (g st) = P [st]) : ∀ b : List Stmt, P (b.flatMap g) = P b
  | [] => rfl
  | st :: rest => by rw [List.flatMap_cons, happ, hg, flatMap_hom happ hg rest, ← happ]; rfl

theorem filter_hom {α : Sort _} {P : List Stmt → α} {op : α → α → α} (happ : ∀ a b, P (a ++ b) = op (P a) (P b))
    {q : Stmt → Bool} (hq : ∀ st, q st = true → P [st] = P []) : ∀ b : List Stmt, P (b.filter (fun s => !q s)) = P b
  | [] => rfl
  | st :: rest => by
    rw [List.filter_cons, ← List.singleton_append (l := rest), happ [st] rest, ← filter_hom happ hq rest]
    cases h : q st with
    | true => rw [hq st h, ← happ]; rfl
    | false => rw [← happ]; rfl

/-- `F m b` looks like `b` to every such `P` that takes `0` and the statements satisfying `q` for the empty block -/
def Unseen (q : Stmt → Bool) (F : Bool → List Stmt → List Stmt) : Prop :=
  ∀ {α : Type} {P : List Stmt → α} {op : α → α → α}, (∀ a b, P (a ++ b) = op (P a) (P b)) → P [zeroStmt] = P [] →
    (∀ st, q st = true → P [st] = P []) → ∀ m b, P (F m b) = P b

theorem unseen_filterSuite (q : Stmt → Bool) : Unseen q (filterSuite q) := fun happ hz hq m b =>
  (filterSuite_invariant _ q hz m b).trans (filter_hom happ hq b)

/-! `C05.combine_imports_keeps_order` is stated with the next two; what is proved about them is in `TransformsImports`. -/

def flattenImports : List Stmt → List Stmt
  | [] => []
  | .import_ names :: rest => names.map (fun a => Stmt.import_ [a]) ++ flattenImports rest
  | s :: rest => s :: flattenImports rest

/-- every `from m import a, b` split into `from m import a`, `from m import b` -/
def flatFrom : List Stmt → List Stmt
  | [] => []
  | s :: rest =>
    (match asImportFrom s with
     | some (m, a, l) => a.map (fun x => Stmt.importFrom m [x] l)
     | none => [s]) ++ flatFrom rest

/-- what makes `cSuite c` a plain filter (no debug splicing, import splitting or dropping of trailing returns): true of the canonical
    forms of the three "drop a statement kind" options -/
structure FilterOnly (c : COpts) : Prop where
  debug : c.debug = false
  imports : c.imports = false
  returnNone : c.returnNone = false

theorem flatMap_debugSplice (c : COpts) (h : c.debug = false) (b : List Stmt) : b.flatMap (debugSplice c) = b := by
  have : debugSplice c = fun s => [s] := funext fun s => by unfold debugSplice; split <;> simp [h]
  rw [this, List.flatMap_singleton']

theorem flatMap_splitImport (c : COpts) (h : c.imports = false) (b : List Stmt) : b.flatMap (splitImport c) = b := by
  have : splitImport c = fun s => [s] := funext fun s => by unfold splitImport; split <;> simp [h]
  rw [this, List.flatMap_singleton']

theorem cSuite_filterOnly (c : COpts) (hc : FilterOnly c) (fb : Bool) (b : List Stmt) :
    cSuite c fb b = b.filter (fun s => !dropStmt c s) := by
  simp only [cSuite, flatMap_debugSplice c hc.debug, flatMap_splitImport c hc.imports, hc.returnNone, Bool.false_and,
    Bool.false_eq_true, if_false, List.filter_filter, Bool.and_self]

theorem cBody_eq_map (c : COpts) (cls : Option (List Expr × List Expr)) : ∀ b : List Stmt, cBody c cls b = b.map (cStmt c cls)
  | [] => rfl
  | s :: ss => by rw [cBody, cBody_eq_map c cls ss, List.map_cons]

theorem cBody_append (c : COpts) (cls : Option (List Expr × List Expr)) (a b : List Stmt) :
    cBody c cls (a ++ b) = cBody c cls a ++ cBody c cls b := by
  simp only [cBody_eq_map, List.map_append]

theorem cStmt_zero (c : COpts) (cls : Option (List Expr × List Expr)) : cStmt c cls zeroStmt = zeroStmt := rfl

theorem annAssign_shape (o : AnnOpts) (cls : Option (List Expr × List Expr)) (tg ann : Expr) (v : Option Expr) (s : Bool) :
    (∃ ts val, annAssign o cls tg ann v s = .assign ts val) ∨ (∃ a b c d, annAssign o cls tg ann v s = .annAssign a b c d) := by
  unfold annAssign
  by_cases h1 : (!annEnabled o cls) = true
  · rw [if_pos h1]; exact Or.inr ⟨_, _, _, _, rfl⟩
  · rw [if_neg h1]
    by_cases h2 : annExempt cls = true
    · rw [if_pos h2]; exact Or.inr ⟨_, _, _, _, rfl⟩
    · rw [if_neg h2]
      cases v with
      | none => exact Or.inr ⟨_, _, _, _, rfl⟩
      | some val => exact Or.inl ⟨_, _, rfl⟩


theorem cStmt_return (c : COpts) (cls : Option (List Expr × List Expr)) (v : Option Expr) : ∃ v', cStmt c cls (.return_ v) = .return_ v' := by
  simp only [cStmt]
  split
  · split <;> exact ⟨_, rfl⟩
  · exact ⟨_, rfl⟩

theorem cStmt_annAssign (c : COpts) (cls : Option (List Expr × List Expr)) (tg ann : Expr) (v : Option Expr) (s : Bool) :
    (∃ ts val, cStmt c cls (.annAssign tg ann v s) = .assign ts val) ∨ (∃ a b c' d, cStmt c cls (.annAssign tg ann v s) = .annAssign a b c' d) := by
  simp only [cStmt]
  rcases annAssign_shape c.ann cls tg ann v s with ⟨ts, val, h⟩ | ⟨a, b, c', d, h⟩ <;> rw [h]
  · exact Or.inl ⟨_, _, rfl⟩
  · exact Or.inr ⟨_, _, _, _, rfl⟩

theorem dropStmt_cStmt (c : COpts) (cls : Option (List Expr × List Expr)) (s : Stmt) :
    dropStmt c (cStmt c cls s) = dropStmt c s := by
  cases s with
  | annAssign tg ann v simple => rcases cStmt_annAssign c cls tg ann v simple with ⟨_, _, h⟩ | ⟨_, _, _, _, h⟩ <;> rw [h] <;> rfl
  | return_ v => obtain ⟨_, h⟩ := cStmt_return c cls v; rw [h]; rfl
  | _ => rfl

/-- what the first two stages of `cSuite c` leave of one statement; the later stages see a block only through this -/
def kept (c : COpts) (s : Stmt) : List Stmt := (debugSplice c s).filter (fun s => !dropStmt c s)

theorem cSuite_congr (c : COpts) (fb : Bool) {a b : List Stmt} (h : a.flatMap (kept c) = b.flatMap (kept c)) :
    cSuite c fb a = cSuite c fb b := by
  have h : (a.flatMap (debugSplice c)).filter (fun s => !dropStmt c s) = (b.flatMap (debugSplice c)).filter (fun s => !dropStmt c s) :=
    List.filter_flatMap.trans (h.trans List.filter_flatMap.symm)
  simp only [cSuite, h]

theorem kept_dropped {c : COpts} {s : Stmt} (h : dropStmt c s = true) : kept c s = [] := by
  -- a statement that is dropped is not an `if`, so it is not spliced
  have : debugSplice c s = [s] := by
    cases s with
    | if_ => simp [dropStmt, isPass, isAssert, isLiteralStmt, isZero] at h
    | _ => rfl
  simp [kept, this, h]

theorem kept_cStmt_dropped {c : COpts} (cls : Option (List Expr × List Expr)) {s : Stmt} (h : dropStmt c s = true) :
    kept c (cStmt c cls s) = [] :=
  kept_dropped (by rw [dropStmt_cStmt, h])

theorem canonModule_simple (c : COpts) (h : (c.literals && c.keepModuleDoc) = false) (hp : c.posargs = false) (m : Module) :
    canonModule c m = ⟨cSuite c false (cBody c none m.body)⟩ := by
  unfold canonModule
  simp only [hp, Bool.false_eq_true, if_false]
  cases hb : m.body with
  | nil => simp [cBody, cSuite]
  | cons d rest =>
    simp only
    have : (c.literals && c.keepModuleDoc && isDocstring d) = false := by simp [h]
    simp [this]

/-- what the canonical form `c` must make of the three pieces of a transformer for the whole traversal to disappear under it -/
structure Absorbs (c : COpts) (t : SuiteT) : Prop where
  stmt : ∀ cls s, cStmt c cls (t.stmtF s) = cStmt c cls s
  suite : ∀ cls fb m ys, cSuite c fb (cBody c cls (t.suiteF m ys)) = cSuite c fb (cBody c cls ys)
  funcBody : ∀ ys, cSuite c true (cBody c none (t.funcBodyF ys)) = cSuite c true (cBody c none ys)

namespace Absorbs
variable {c : COpts} {t : SuiteT}

theorem else_trav (h : Absorbs c t) (cls) (fb : Bool) (b : List Stmt) (ih : cBody c cls (travBody t b) = cBody c cls b) :
    cSuite c fb (cBody c cls (if b.isEmpty then [] else t.suiteF false (travBody t b))) = cSuite c fb (cBody c cls b) := by
  cases b with
  | nil => rfl
  | cons s ss => rw [← ih]; exact h.suite cls fb false _

mutual
theorem stmt_trav (h : Absorbs c t) : (s : Stmt) → (cls : Option (List Expr × List Expr)) → cStmt c cls (travStmt t s) = cStmt c cls s
  | .functionDef a n args body decs ret tps, cls => by
    rw [travStmt, h.stmt]; simp only [cStmt]
    rw [h.funcBody, h.suite, h.body_trav body none]
  | .classDef n bases kws body decs tps, cls => by
    rw [travStmt, h.stmt]; simp only [cStmt]
    rw [h.suite, h.body_trav body _]
  | .for_ _ _ _ body orelse, cls | .while_ _ body orelse, cls | .if_ _ body orelse, cls => by
    simp only [travStmt, cStmt]
    rw [h.suite, h.body_trav body cls, h.else_trav cls false orelse (h.body_trav orelse cls)]
  | .with_ a items body, cls => by
    simp only [travStmt, cStmt]
    rw [h.suite, h.body_trav body cls]
  | .try_ false body hs orelse fin, cls => by
    simp only [travStmt, cStmt]
    rw [h.suite, h.body_trav body cls, h.handlers_trav hs cls, h.else_trav cls false orelse (h.body_trav orelse cls),
      h.else_trav cls false fin (h.body_trav fin cls)]
  | .try_ true body hs orelse fin, cls => by
    simp only [travStmt, cStmt]
    rw [h.body_trav body cls, h.handlers_trav hs cls, h.body_trav orelse cls, h.body_trav fin cls]
  | .match_ s cases, cls => by
    simp only [travStmt, cStmt]
    rw [h.cases_trav cases cls]
  | .return_ _, cls | .delete _, cls | .assign .., cls | .typeAlias .., cls | .augAssign .., cls | .annAssign .., cls
  | .raise_ .., cls | .assert_ .., cls | .import_ _, cls | .importFrom .., cls | .global _, cls | .nonlocal _, cls
  | .expr _, cls | .pass, cls | .break_, cls | .continue_, cls => h.stmt cls _
theorem body_trav (h : Absorbs c t) : (b : List Stmt) → (cls : Option (List Expr × List Expr)) → cBody c cls (travBody t b) = cBody c cls b
  | [], _ => rfl
  | s :: ss, cls => by
    simp only [travBody, cBody]
    rw [h.stmt_trav s cls, h.body_trav ss cls]
theorem handlers_trav (h : Absorbs c t) : (hs : List Handler) → (cls : Option (List Expr × List Expr)) →
    cHandlers c cls (travHandlers t hs) = cHandlers c cls hs
  | [], _ => rfl
  | .mk ty n body :: hs, cls => by
    simp only [travHandlers, cHandlers]
    rw [h.body_trav body cls, h.handlers_trav hs cls]
theorem cases_trav (h : Absorbs c t) : (cs : List MatchCase) → (cls : Option (List Expr × List Expr)) →
    cCases c cls (travCases t cs) = cCases c cls cs
  | [], _ => rfl
  | .mk p g body :: cs, cls => by
    simp only [travCases, cCases]
    rw [h.body_trav body cls, h.cases_trav cs cls]
end

theorem canon (h : Absorbs c t) (hl : (c.literals && c.keepModuleDoc) = false) (hp : c.posargs = false) (m : Module) :
    canonModule c (travModule t m) = canonModule c m := by
  rw [canonModule_simple c hl hp, canonModule_simple c hl hp, travModule, h.suite, h.body_trav]

end Absorbs

def suiteT (F : Bool → List Stmt → List Stmt) : SuiteT := { suiteF := F }
@[simp] theorem suiteT_suiteF (F : Bool → List Stmt → List Stmt) (m : Bool) (b : List Stmt) : (suiteT F).suiteF m b = F m b := rfl
@[simp] theorem suiteT_stmtF (F : Bool → List Stmt → List Stmt) (s : Stmt) : (suiteT F).stmtF s = s := rfl
@[simp] theorem suiteT_funcBodyF (F : Bool → List Stmt → List Stmt) (b : List Stmt) : (suiteT F).funcBodyF b = b := rfl

section AbsorbS
variable (c : COpts) (F : Bool → List Stmt → List Stmt)
  (hsuite : ∀ (cls : Option (List Expr × List Expr)) (fb m : Bool) (ys : List Stmt), cSuite c fb (cBody c cls (F m ys)) = cSuite c fb (cBody c cls ys))
include hsuite

theorem absorbs_suiteT : Absorbs c (suiteT F) := ⟨fun _ _ => rfl, hsuite, fun _ => rfl⟩

theorem sAbsorbStmt : (s : Stmt) → (cls : Option (List Expr × List Expr)) → cStmt c cls (travStmt (suiteT F) s) = cStmt c cls s :=
  (absorbs_suiteT c F hsuite).stmt_trav
theorem sAbsorbHandlers : (hs : List Handler) → (cls : Option (List Expr × List Expr)) → cHandlers c cls (travHandlers (suiteT F) hs) = cHandlers c cls hs :=
  (absorbs_suiteT c F hsuite).handlers_trav
theorem sAbsorbCases : (cs : List MatchCase) → (cls : Option (List Expr × List Expr)) → cCases c cls (travCases (suiteT F) cs) = cCases c cls cs :=
  (absorbs_suiteT c F hsuite).cases_trav

end AbsorbS

def dropT (q : Stmt → Bool) : SuiteT := { suiteF := filterSuite q }

@[simp] theorem dropT_suiteF (q : Stmt → Bool) : (dropT q).suiteF = filterSuite q := rfl
@[simp] theorem dropT_stmtF (q : Stmt → Bool) (s : Stmt) : (dropT q).stmtF s = s := rfl
@[simp] theorem dropT_funcBodyF (q : Stmt → Bool) (b : List Stmt) : (dropT q).funcBodyF b = b := rfl

/-- what the later stages of `cSuite c` see of a block (`cSuite_congr`) turns `++` into `++`: a suite function that is `Unseen q`
    disappears under a canonical form that keeps nothing of `0` and of the statements satisfying `q` -/
theorem absorbs_unseen {q : Stmt → Bool} {F : Bool → List Stmt → List Stmt} (hF : Unseen q F) (c : COpts)
    (hq : ∀ cls s, q s = true → kept c (cStmt c cls s) = []) (hz : dropStmt c zeroStmt = true) : Absorbs c (suiteT F) :=
  absorbs_suiteT c F fun cls fb m ys => cSuite_congr c fb <| by
    simp only [cBody_eq_map, List.flatMap_map]
    exact hF (P := List.flatMap fun s => kept c (cStmt c cls s)) (fun _ _ => List.flatMap_append)
      ((List.flatMap_singleton ..).trans (kept_cStmt_dropped cls hz)) (fun s h => (List.flatMap_singleton ..).trans (hq cls s h)) m ys

theorem absorbs_dropT (c : COpts) (q : Stmt → Bool) (hq : ∀ cls s, q s = true → kept c (cStmt c cls s) = [])
    (hz : dropStmt c zeroStmt = true) : Absorbs c (dropT q) := absorbs_unseen (unseen_filterSuite q) c hq hz

section Absorb
variable (c : COpts) (hc : FilterOnly c) (q : Stmt → Bool)
  (hq : ∀ s, q s = true → dropStmt c s = true) (hz : dropStmt c zeroStmt = true)
  (hqc : ∀ cls s, q (cStmt c cls s) = q s) (hzc : ∀ cls, cStmt c cls zeroStmt = zeroStmt)
include hc hq hz hqc hzc

theorem absorbStmt : (s : Stmt) → (cls : Option (List Expr × List Expr)) →
    cStmt c cls (travStmt (dropT q) s) = cStmt c cls s :=
  (absorbs_dropT c q (fun cls s h => kept_cStmt_dropped cls (hq s h)) hz).stmt_trav
theorem absorbHandlers : (hs : List Handler) → (cls : Option (List Expr × List Expr)) →
    cHandlers c cls (travHandlers (dropT q) hs) = cHandlers c cls hs :=
  (absorbs_dropT c q (fun cls s h => kept_cStmt_dropped cls (hq s h)) hz).handlers_trav
theorem absorbCases : (cs : List MatchCase) → (cls : Option (List Expr × List Expr)) →
    cCases c cls (travCases (dropT q) cs) = cCases c cls cs :=
  (absorbs_dropT c q (fun cls s h => kept_cStmt_dropped cls (hq s h)) hz).cases_trav

end Absorb

section AbsorbG
variable (c : COpts) (q : Stmt → Bool)
  (hsuite : ∀ (cls : Option (List Expr × List Expr)) (fb m : Bool) (ys : List Stmt),
    cSuite c fb (cBody c cls (filterSuite q m ys)) = cSuite c fb (cBody c cls ys))
include hsuite

theorem absorbs_dropG : Absorbs c (dropT q) := absorbs_suiteT c (filterSuite q) hsuite

theorem gAbsorbStmt : (s : Stmt) → (cls : Option (List Expr × List Expr)) →
    cStmt c cls (travStmt (dropT q) s) = cStmt c cls s :=
  (absorbs_dropG c q hsuite).stmt_trav
theorem gAbsorbHandlers : (hs : List Handler) → (cls : Option (List Expr × List Expr)) →
    cHandlers c cls (travHandlers (dropT q) hs) = cHandlers c cls hs :=
  (absorbs_dropG c q hsuite).handlers_trav
theorem gAbsorbCases : (cs : List MatchCase) → (cls : Option (List Expr × List Expr)) →
    cCases c cls (travCases (dropT q) cs) = cCases c cls cs :=
  (absorbs_dropG c q hsuite).cases_trav

end AbsorbG

theorem canon_dropG (c : COpts) (q : Stmt → Bool)
    (hsuite : ∀ (cls : Option (List Expr × List Expr)) (fb m : Bool) (ys : List Stmt),
      cSuite c fb (cBody c cls (filterSuite q m ys)) = cSuite c fb (cBody c cls ys))
    (hl : (c.literals && c.keepModuleDoc) = false) (hp : c.posargs = false) (m : Module) :
    canonModule c (travModule (dropT q) m) = canonModule c m :=
  (absorbs_dropG c q hsuite).canon hl hp m

def DbgOnly : COpts := { debug := true }

theorem isDebugName_eq {l : Expr} (h : isDebugName l = true) : ∃ x, l = .name "__debug__" x := by
  unfold isDebugName at h
  split at h
  · exact ⟨_, rfl⟩
  · cases h

theorem canRemoveDebug_inv {st : Stmt} (h : canRemoveDebug st = true) :
    ∃ test body, st = .if_ test body [] ∧ isDebugTest test = true := by
  cases st with
  | if_ test body orelse =>
    simp only [canRemoveDebug, Bool.and_eq_true, List.isEmpty_iff] at h
    obtain ⟨rfl, ht⟩ := h
    refine ⟨_, _, rfl, ?_⟩
    split at ht
    · rfl
    · obtain ⟨x, rfl⟩ := isDebugName_eq ht; rfl
    · obtain ⟨x, rfl⟩ := isDebugName_eq ht; rfl
    · obtain ⟨x, rfl⟩ := isDebugName_eq ht; rfl
    · cases ht
  | _ => cases h

theorem kept_removed {c : COpts} (hd : c.debug = true) (cls : Option (List Expr × List Expr)) (s : Stmt)
    (h : canRemoveDebug s = true) : kept c (cStmt c cls s) = [] := by
  obtain ⟨test, body, rfl, hdt⟩ := canRemoveDebug_inv h
  simp [kept, cStmt, cExpr, debugSplice, hd, hdt, cBody, cSuite]

end PMV.Transforms
