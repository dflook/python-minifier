import PMV.Model.Cli
namespace PMV.Cli

theorem nodup_eraseDups {α} [BEq α] [LawfulBEq α] : ∀ (l : List α), l.eraseDups.Nodup
  | [] => by simp
  | a :: as => by
    rw [List.eraseDups_cons]
    refine List.nodup_cons.mpr ⟨?_, nodup_eraseDups (as.filter fun b => !b == a)⟩
    intro hmem
    rw [List.mem_eraseDups, List.mem_filter] at hmem
    simp at hmem
termination_by l => l.length
decreasing_by exact Nat.lt_succ_of_le (List.length_filter_le _ _)

theorem lookup_cons_ite {α β} [DecidableEq α] {k q : α} {c : β} {es : List (α × β)} :
    List.lookup q ((k, c) :: es) = if q = k then some c else List.lookup q es := by
  rw [List.lookup_cons]
  by_cases h : q = k
  · simp [h]
  · rw [beq_false_of_ne h, if_neg h]

theorem FS.get_set (fs : FS) (p q : String) (b : List UInt8) :
    (FS.set fs p b).get q = if q = p then some b else fs.get q := by
  unfold FS.get
  induction fs with
  | nil => exact lookup_cons_ite
  | cons hd tl ih =>
    obtain ⟨k, c⟩ := hd
    rw [FS.set, lookup_cons_ite]
    by_cases hk : k = p
    · rw [if_pos (beq_iff_eq.mpr hk), lookup_cons_ite, hk]
      split <;> rfl
    · rw [if_neg (mt beq_iff_eq.mp hk), lookup_cons_ite, ih]
      by_cases hq : q = p
      · rw [if_pos hq, if_pos hq, if_neg (hq ▸ Ne.symm hk)]
      · rw [if_neg hq, if_neg hq]

theorem written_eq (force : Bool) (src m : List UInt8) :
    written force src m = if force = true ∨ m.length ≤ src.length then m else src := by
  unfold written doMinify
  cases force
  · by_cases h : m.length ≤ src.length
    · simp [h, Nat.not_lt.mpr h]
    · simp [h, Nat.lt_of_not_le h]
  · simp

theorem written_le (src m : List UInt8) : (written false src m).length ≤ src.length := by
  rw [written_eq]
  exact iteInduction (motive := fun w : List UInt8 => w.length ≤ src.length) (Or.resolve_left · Bool.false_ne_true)
    fun _ => Nat.le_refl _

theorem written_is_api_or_src (force : Bool) (src m : List UInt8) :
    written force src m = m ∨ written force src m = src := by
  rw [written_eq]
  exact iteInduction (motive := fun w => w = m ∨ w = src) (fun _ => .inl rfl) fun _ => .inr rfl

/-- the file a visit of `path` writes to, if any -/
def sink (mode : Mode) (out path : String) : Option String :=
  match mode with
  | .inPlace => some path
  | .output => some out
  | .stdout => none

section
-- explicit: these two are taken apart by `rcases`, where no goal fixes the arguments
variable (force : Bool) (mode : Mode) (out : String) (api : List UInt8 → Outcome)

theorem visit_fs (st : RunState) (path : String) :
    (visit force mode out api st path).fs = st.fs ∨
    ∃ p src m, sink mode out path = some p ∧ st.fs.get path = some src ∧ api src = .ok m ∧
      (visit force mode out api st path).fs = st.fs.set p (written force src m) := by
  unfold visit
  by_cases hf : st.failed = true
  · rw [if_pos hf]; exact .inl rfl
  rw [if_neg hf]
  split
  · exact .inl rfl
  · rename_i src hget
    split
    · exact .inl rfl
    · rename_i m hapi
      cases mode
      · exact .inl rfl
      · exact .inr ⟨out, src, m, rfl, hget, hapi, rfl⟩
      · exact .inr ⟨path, src, m, rfl, hget, hapi, rfl⟩

theorem visit_fail (st : RunState) (a : String)
    (h : st.fs.get a = none ∨ ∃ src, st.fs.get a = some src ∧ api src = .fail) :
    (visit force mode out api st a).failed = true ∧ (visit force mode out api st a).fs = st.fs := by
  unfold visit
  refine iteInduction (motive := fun x : RunState => x.failed = true ∧ x.fs = st.fs) (fun hf => ⟨hf, rfl⟩) fun _ => ?_
  rcases h with h | ⟨src, h1, h2⟩
  · simp [h]
  · simp [h1, h2]

end

section
variable {force : Bool} {mode : Mode} {out : String} {api : List UInt8 → Outcome} {q : String}

theorem visit_get_other {st : RunState} {a : String} (h : sink mode out a ≠ some q) :
    (visit force mode out api st a).fs.get q = st.fs.get q := by
  rcases visit_fs force mode out api st a with e | ⟨p, _, _, hp, _, _, e⟩ <;> rw [e]
  rw [FS.get_set, if_neg fun (hq : q = p) => h (hq ▸ hp)]

theorem run_get_other (l : List String) (st : RunState) (h : ∀ a ∈ l, sink mode out a ≠ some q) :
    (l.foldl (visit force mode out api) st).fs.get q = st.fs.get q :=
  l.foldlRecOn (motive := fun s : RunState => s.fs.get q = st.fs.get q) _ rfl fun _ ih a ha => (visit_get_other (h a ha)).trans ih

theorem run_inplace_other {l : List String} (st : RunState) (h : q ∉ l) :
    (l.foldl (visit force .inPlace out api) st).fs.get q = st.fs.get q :=
  run_get_other l st fun _ ha => by rintro ⟨rfl⟩; exact h ha

theorem run_stdout_fs (l : List String) (st : RunState) : (l.foldl (visit force .stdout out api) st).fs = st.fs :=
  l.foldlRecOn (motive := fun s : RunState => s.fs = st.fs) _ rfl fun st' ih a _ => by
    rcases visit_fs force .stdout out api st' a with e | ⟨_, _, _, hp, _⟩
    · exact e.trans ih
    · cases hp

theorem foldl_failed (l : List String) (st : RunState) (h : st.failed = true) :
    l.foldl (visit force mode out api) st = st :=
  l.foldlRecOn (motive := (· = st)) _ rfl fun _ ih _ _ => by rw [ih]; simp [visit, h]

end

theorem run_inplace_get {force : Bool} {out : String} {api : List UInt8 → Outcome} {l : List String} (st : RunState)
    (hnd : l.Nodup) (p : String) :
    (l.foldl (visit force .inPlace out api) st).fs.get p = st.fs.get p ∨
      ∃ src m, st.fs.get p = some src ∧ api src = .ok m ∧
        (l.foldl (visit force .inPlace out api) st).fs.get p = some (written force src m) := by
  by_cases hp : p ∈ l
  · -- `p` is visited once; the visits before and after it are visits of other paths, so only that one visit counts
    obtain ⟨pre, post, rfl⟩ := List.append_of_mem hp
    obtain ⟨_, hpost, hpre⟩ := List.nodup_append.mp hnd
    have hbefore : (pre.foldl (visit force .inPlace out api) st).fs.get p = st.fs.get p :=
      run_inplace_other st fun h => hpre p h p List.mem_cons_self rfl
    rw [List.foldl_append, List.foldl_cons, run_inplace_other _ (List.nodup_cons.mp hpost).1, ← hbefore]
    rcases visit_fs force .inPlace out api (pre.foldl (visit force .inPlace out api) st) p with
      e | ⟨_, src, m, ⟨rfl⟩, hget, hapi, e⟩ <;> rw [e]
    · exact .inl rfl
    · rw [FS.get_set, if_pos rfl]
      exact .inr ⟨src, m, hget, hapi, rfl⟩
  · exact .inl (run_inplace_other st hp)

end PMV.Cli
