import PMV.Model.InPlace
namespace PMV.InPlace

theorem firstSlot_eq_some (f : Fn) (s : Slot) :
    firstSlot f = some s ↔ (0 < f.nPosonly ∧ s = .posonly 0) ∨ (f.nPosonly = 0 ∧ 0 < f.nArgs ∧ s = .arg 0) := by
  unfold firstSlot
  by_cases h1 : 0 < f.nPosonly
  · simp [h1, Nat.ne_of_gt h1, eq_comm]
  · by_cases h2 : 0 < f.nArgs
    · simp [h2, Nat.eq_zero_of_not_pos h1, eq_comm]
    · simp [h1, h2]

end PMV.InPlace
