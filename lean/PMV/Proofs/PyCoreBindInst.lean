import PMV.Proofs.PyCoreImports
import PMV.Proofs.DropGuard
import PMV.Model.Minify
/-
  One `Neutral` instance per statement-level transform; `BindOK` is what keeps the static local/global decision of the
  semantics the same before and after.  Assert / `if __debug__` removal (`guardT_runWith`) is sound under `python -O` only and
  is not `BindOK`: a removed statement that holds the only binding of a name turns a local variable into a global one
  (`remove_debug_changes_scoping` in Properties/C01); there the per-module check `scopeStable` takes the place of `BindOK`.
-/
namespace PMV.PyCore
open PMV PMV.Transforms PMV.Minify PMV.Spec.Rewrites

theorem neutral_unseen {q : Stmt → Bool} {F : Bool → List Stmt → List Stmt} (hF : Unseen q F) (hq : ∀ o, NoOpPred o q)
    (hb : ∀ st, q st = true → bindS st = some []) : Neutral (suiteT F) :=
  ⟨fun o => filter_sound hF (hq o), filter_table hF (hq false), filter_bindOK hF hb⟩

theorem isLiteral_inv {st : Stmt} (h : isLiteralStmt st = true) : ∃ c, st = .expr (.constant c) := by
  cases st with
  | expr e =>
    cases e with
    | constant c => exact ⟨c, rfl⟩
    | _ => simp [isLiteralStmt] at h
  | _ => simp [isLiteralStmt] at h

theorem isLiteral_noop : NoOpPred o isLiteralStmt where
  exec _ _ _ _ h := by obtain ⟨c, rfl⟩ := isLiteral_inv h; exact (exec1_simple _ _ _ _ rfl rfl rfl).trans rfl
  notDef _ h := by obtain ⟨c, rfl⟩ := isLiteral_inv h; rfl
  notGlobal _ h := by obtain ⟨c, rfl⟩ := isLiteral_inv h; rfl

theorem isLiteral_binds (st : Stmt) (h : isLiteralStmt st = true) : bindS st = some [] := by
  obtain ⟨c, rfl⟩ := isLiteral_inv h; rfl

theorem literals_neutral : Neutral (dropT isLiteralStmt) :=
  neutral_unseen (unseen_filterSuite _) (fun _ => isLiteral_noop) isLiteral_binds

theorem exec_returnNoneStmt (ft : FTab) (fuel : Nat) (s : St) (st : Stmt) :
    exec1 ⟨ft, o⟩ fuel s (returnNoneStmt st) = exec1 ⟨ft, o⟩ fuel s st :=
  returnNoneStmt_invariant (exec1 ⟨ft, o⟩ fuel s) (by rw [exec1_simple _ _ _ _ rfl rfl rfl, exec1_simple _ _ _ _ rfl rfl rfl]; rfl) st

theorem asCall_append_return (ft : FTab) (fuel : Nat) (l : List Stmt) (s : St) :
    asCall (execL ⟨ft, o⟩ fuel s (l ++ [.return_ none])) = asCall (execL ⟨ft, o⟩ fuel s l) := by
  rw [execL_append]
  cases execL ⟨ft, o⟩ fuel s l with
  | ok fl =>
    cases fl with
    | normal s' =>
      show asCall (execL ⟨ft, o⟩ fuel s' [.return_ none]) = _
      rw [execL_cons, exec1_simple _ _ _ _ rfl rfl rfl]; rfl
    | _ => rfl
  | _ => rfl

theorem asCall_dropTrailingReturn (ft : FTab) (fuel : Nat) (s : St) (b : List Stmt) :
    asCall (execL ⟨ft, o⟩ fuel s (dropTrailingReturn b)) = asCall (execL ⟨ft, o⟩ fuel s b) :=
  dropTrailingReturn_invariant (fun l => asCall (execL ⟨ft, o⟩ fuel s l)) (by rw [execL_cons, exec_zero])
    (fun l => asCall_append_return ft fuel l s) b

theorem globals_dropTrailingReturn (b : List Stmt) : declaredGlobals (dropTrailingReturn b) = declaredGlobals b :=
  dropTrailingReturn_invariant declaredGlobals rfl (fun l => by rw [declaredGlobals_append]; exact List.append_nil _) b

theorem bindTop_dropTrailingReturn (b : List Stmt) : bindTop (dropTrailingReturn b) = bindTop b := by
  rw [bindTop_eq, bindTop_eq]
  exact dropTrailingReturn_invariant (obind bindS0) rfl (fun l => (obind_append ..).trans (oapp_nil_right _)) b

theorem returnNone_neutral : Neutral removeReturnNone where
  sound _ := Sound.of_pieces (fun _ _ _ _ _ => rfl) exec_returnNoneStmt asCall_dropTrailingReturn (fun _ => rfl)
    (returnNoneStmt_invariant globalsOf rfl) globals_dropTrailingReturn
  table := ⟨returnNoneStmt_invariant defOf rfl, fun _ => rfl⟩
  bind := ⟨returnNoneStmt_invariant bindS rfl, returnNoneStmt_invariant bindS0 rfl, fun _ _ => rfl, fun _ _ => rfl,
    bindTop_dropTrailingReturn⟩

theorem raiseName_stripCall (el : List String) (e c : Option Expr) :
    raiseName (stripCall el e) (stripCall el c) = raiseName e c := by
  cases c with
  | some c' =>
    have : ∃ c'', stripCall el (some c') = some c'' := by
      unfold stripCall
      split
      · split <;> exact ⟨_, rfl⟩
      · exact ⟨_, rfl⟩
    obtain ⟨c'', hc⟩ := this
    rw [hc, raiseName_from, raiseName_from]
  | none =>
    have hn : stripCall el none = none := rfl
    rw [hn]
    unfold stripCall
    split
    · split <;> rfl
    · rfl

theorem bracketsStmt_invariant {α : Sort _} (el : List String) (P : Stmt → α)
    (h : ∀ e c, P (.raise_ (stripCall el e) (stripCall el c)) = P (.raise_ e c)) (st : Stmt) : P (bracketsStmt el st) = P st := by
  cases st with
  | raise_ => exact h ..
  | _ => rfl

theorem exec_bracketsStmt (el : List String) (ft : FTab) (fuel : Nat) (s : St) (st : Stmt) :
    exec1 ⟨ft, o⟩ fuel s (bracketsStmt el st) = exec1 ⟨ft, o⟩ fuel s st :=
  bracketsStmt_invariant el _ (fun e c => by
    rw [exec1_simple _ _ _ _ rfl rfl rfl, exec1_simple _ _ _ _ rfl rfl rfl]
    simp only [simpleExec, raiseName_stripCall]) st

theorem bindS_bracketsStmt (el : List String) : ∀ st, bindS (bracketsStmt el st) = bindS st :=
  bracketsStmt_invariant el bindS fun e c => by simp only [bindS, raiseName_stripCall]

theorem brackets_neutral (el : List String) : Neutral (removeBrackets el) :=
  stmtT_neutral (bracketsStmt el) (fun _ => exec_bracketsStmt el) (bracketsStmt_invariant el globalsOf fun _ _ => rfl)
    (bracketsStmt_invariant el defOf fun _ _ => rfl) (bindS_bracketsStmt el)
    (bracketsStmt_invariant el bindS0 fun e c => bindS_bracketsStmt el (.raise_ e c))

theorem exec_removeObjectStmt (ft : FTab) (fuel : Nat) (s : St) (st : Stmt) :
    exec1 ⟨ft, o⟩ fuel s (removeObjectStmt st) = exec1 ⟨ft, o⟩ fuel s st :=
  removeObjectStmt_invariant _ (fun _ _ _ _ _ _ => by
    rw [exec1_simple _ _ _ _ rfl rfl rfl, exec1_simple _ _ _ _ rfl rfl rfl]; rfl) st

theorem object_neutral : Neutral removeObject :=
  stmtT_neutral removeObjectStmt (fun _ => exec_removeObjectStmt) (removeObjectStmt_invariant globalsOf fun _ _ _ _ _ _ => rfl)
    (removeObjectStmt_invariant defOf fun _ _ _ _ _ _ => rfl) (removeObjectStmt_invariant bindS fun _ _ _ _ _ _ => rfl)
    (removeObjectStmt_invariant bindS0 fun _ _ _ _ _ _ => rfl)

theorem aliasBound_single (names : List Alias) :
    obind bindS (names.map (fun a => Stmt.import_ [a])) = some (names.map aliasBound) := by
  induction names with
  | nil => rfl
  | cons a rest ih => simp [obind, bindS, ih, oapp]

theorem fromBound_single (m : Option String) (l : Nat) : ∀ names : List Alias,
    obind bindS (names.map (fun a => Stmt.importFrom m [a] l)) = bindS (.importFrom m names l)
  | [] => rfl
  | a :: rest => by
    simp only [List.map_cons, obind, fromBound_single m l rest, bindS, hasStar_cons]
    cases a.name == "*" <;> cases hasStar rest <;> simp [oguard, oapp, hasStar]

theorem split_bindS : ∀ st, obind bindS (splitImport ImpOnly st) = obind bindS [st] :=
  splitImport_invariant _ (fun names => (aliasBound_single names).trans (oapp_nil_right _).symm)
    fun m names l => (fromBound_single m l names).trans (oapp_nil_right _).symm

theorem obind_bindS0_map {α : Type} (g : α → Stmt) (hg : ∀ a, bindS0 (g a) = bindS (g a)) :
    ∀ l : List α, obind bindS0 (l.map g) = obind bindS (l.map g)
  | [] => rfl
  | a :: rest => by simp only [List.map_cons, obind, hg, obind_bindS0_map g hg rest]

theorem split_bindS0 : ∀ st, obind bindS0 (splitImport ImpOnly st) = obind bindS0 [st] :=
  splitImport_invariant _ (fun names => (obind_bindS0_map _ (fun _ => rfl) names).trans (split_bindS (.import_ names)))
    fun m names l => (obind_bindS0_map _ (fun _ => rfl) names).trans (split_bindS (.importFrom m names l))

theorem obind_combine (f : Stmt → Option (List String)) (h : ∀ st, obind f (splitImport ImpOnly st) = obind f [st]) (b : List Stmt) :
    obind f (combineFrom (combineImport b)) = obind f b :=
  combine_invariant (obind f) (flatMap_hom (obind_append f) h) b

theorem combineImports_neutral : Neutral combineImports where
  sound o := suiteT_sound (fun _ b => combineFrom (combineImport b))
    (fun ft fuel s _ b => combine_invariant (execL ⟨ft, o⟩ fuel s) (execL_split ft fuel s) b) globals_combine
  table := suiteT_table (fun _ b => combineFrom (combineImport b)) collect_combine
  bind := suiteT_bindOK (fun _ b => combineFrom (combineImport b)) (fun _ => obind_combine bindS split_bindS)
    (fun _ => obind_combine bindS0 split_bindS0)

theorem guardT_runWith (q : Stmt → Bool) (hq : NoOpPred o q) (n : Nat) (m : Module) (hs : scopeStable (guardT q) m = true) :
    runWith o n (travModule (guardT q) m) = runWith o n m :=
  runWith_trav _ (filter_sound (unseen_guard q) hq) (filter_table (unseen_guard q) hq) n m (stable_of_scopeStable _ m hs)

theorem isPass_binds (st : Stmt) (h : isPass st = true) : bindS st = some [] := by
  cases isPass_inv h; rfl

theorem removePass_neutral : Neutral removePass :=
  removePass_eq ▸ (neutral_unseen (unseen_guard isPass) (fun _ => isPass_noop) isPass_binds : Neutral (guardT isPass))

theorem removePass_sound : Sound o removePass := removePass_neutral.sound o

theorem isAssert_binds (st : Stmt) (h : isAssert st = true) (hc : (bindS st).isSome = true) : bindS st = some [] := by
  obtain ⟨c, m, rfl⟩ := isAssert_inv h
  obtain ⟨l, hl⟩ := Option.isSome_iff_exists.mp hc
  rw [hl]; exact (oguard_some hl).2.symm

end PMV.PyCore
