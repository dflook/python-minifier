import PMV.Proofs.PyCoreHoist
/-
  T01.14, static part: from the checkable condition `hoistOK` to the callee claim (the inserted assignments at the
  start of a hoisted body establish the relation) and to the whole-module theorem.
-/
namespace PMV.PyCore
open PMV PMV.RenameAst PMV.HoistAst

variable {o : Bool}

theorem cfind_mem : ∀ (g : CMap) (c : Const) (a : String), cfind g c = some a → ∃ k, (k, a) ∈ g ∧ sameConst k c = true
  | [] => fun _ _ h => nomatch h
  | (k, b) :: rest => fun c a h => by
    simp only [cfind] at h
    by_cases hs : sameConst k c = true
    · simp only [hs, if_true, Option.some.injEq] at h
      subst h
      exact ⟨k, by simp, hs⟩
    · simp only [hs, Bool.false_eq_true, if_false] at h
      obtain ⟨k', hm, hk⟩ := cfind_mem rest c a h
      exact ⟨k', by simp [hm], hk⟩

theorem sameConst_val (k c : Const) (h : sameConst k c = true) : constVal k = constVal c := by
  cases k <;> cases c <;> simp [sameConst] at h <;> simp [constVal]
  subst h; rfl

theorem mem_gvals {a : String} {v : Val} : ∀ {g : CMap}, (a, v) ∈ gvals g ↔ ∃ k, (k, a) ∈ g ∧ constVal k = some v
  | [] => ⟨fun h => (nomatch h), fun ⟨_, h, _⟩ => (nomatch h)⟩
  | (k', b) :: rest => by
    simp only [gvals, List.mem_append, mem_gvals (g := rest), List.mem_cons, Prod.mk.injEq, or_and_right, exists_or]
    refine or_congr ⟨fun h => ?_, fun ⟨k, ⟨hk, hb⟩, hv⟩ => ?_⟩ Iff.rfl
    · cases hk : constVal k' with
      | none => rw [hk] at h; nomatch h
      | some w => rw [hk] at h; cases List.mem_singleton.mp h; exact ⟨k', ⟨rfl, rfl⟩, hk⟩
    · rw [← hk, hv, hb]; exact List.mem_singleton.mpr rfl

theorem gvals_names (g : CMap) (a : String) (v : Val) (h : (a, v) ∈ gvals g) : a ∈ gnames g :=
  have ⟨_, hk, _⟩ := mem_gvals.mp h
  List.mem_map_of_mem (f := (·.2)) hk

theorem gnames_append (g g' : CMap) : gnames (g ++ g') = gnames g ++ gnames g' := List.map_append

theorem gvals_append : ∀ g g' : CMap, gvals (g ++ g') = gvals g ++ gvals g'
  | [], _ => rfl
  | (_, _) :: rest, g' => by show _ ++ gvals (rest ++ g') = (_ ++ gvals rest) ++ gvals g'; rw [gvals_append rest g', List.append_assoc]

theorem cons_of (gl gm : CMap) (GL : List (String × Val)) (hvals : ∀ p, p ∈ gl ++ gm → (constVal p.1).isSome = true)
    (hGL : ∀ k a v, (k, a) ∈ gl → constVal k = some v → (a, v) ∈ GL) : Cons (gl ++ gm) (gvals gm) GL := by
  intro c a hf
  obtain ⟨k, hm, hs⟩ := cfind_mem (gl ++ gm) c a hf
  have hv := hvals (k, a) hm
  cases hk : constVal k with
  | none => simp [hk] at hv
  | some v =>
    refine ⟨v, by rw [← sameConst_val k c hs]; exact hk, ?_⟩
    rcases List.mem_append.mp hm with h1 | h1
    · exact Or.inr (hGL k a v h1 hk)
    · exact Or.inl (mem_gvals.mpr ⟨k, h1, hk⟩)

theorem exec1_ghost (ft : FTab) (k : Nat) (s : St) (c : Const) (a : String) (v : Val) (hv : constVal c = some v) :
    exec1 ⟨ft, o⟩ k s (ghostStmt c a) = .ok (.normal (s.assign a v)) := by
  unfold ghostStmt
  rw [exec1_assign_name _ _ _ _ _ _ rfl]
  simp only [evalThen, constVal_eval s c v hv]

variable {P : String → Bool} {GA : List String} {GG GL : List (String × Val)}
variable {s s' : St}

theorem RelH.ghostLocal (h : RelH P GA GG GL s s') (a : String) (v : Val) (hloc : s'.isLocal a = true)
    (hP : P a = false) (hnew : ∀ b w, (b, w) ∈ GL → b ≠ a) : RelH P GA GG (GL ++ [(a, v)]) s (s'.assign a v) := by
  have hg : (s'.assign a v).globals = s'.globals := by rw [globals_assign, hloc]; rfl
  exact
    { h with
      out := by rw [out_assign]; exact h.out
      imports := by rw [imports_assign]; exact h.imports
      mode := by rw [isSome_assign]; exact h.mode
      gget := fun y hy => by rw [hg]; exact h.gget y hy
      isLocal := fun y hy => by rw [isLocal_assign]; exact h.isLocal y hy
      lget := fun y hy hly => by
        have hne : (y == a) = false := beq_eq_false_iff_ne.mpr (fun hc => by rw [hc, hP] at hy; exact absurd hy (by simp))
        rw [lget_assign, hne, Bool.and_false]
        exact h.lget y hy hly
      gghost := fun b w hm => by
        obtain ⟨h1, h2⟩ := h.gghost b w hm
        exact ⟨by rw [isLocal_assign]; exact h1, by rw [hg]; exact h2⟩
      lghost := fun b w hm => by
        simp only [List.mem_append, List.mem_singleton, Prod.mk.injEq] at hm
        rw [isLocal_assign, lget_assign, hloc, Bool.true_and]
        rcases hm with hm | ⟨rfl, rfl⟩
        · rw [beq_eq_false_iff_ne.mpr (hnew b w hm)]
          exact h.lghost b w hm
        · exact ⟨hloc, by simp⟩
      freshL := fun b w hm => by
        simp only [List.mem_append, List.mem_singleton, Prod.mk.injEq] at hm
        rcases hm with hm | ⟨rfl, rfl⟩
        · exact h.freshL b w hm
        · exact hP }

theorem execL_cons_rel2 {R1 R2 : St → St → Prop} (hsub : ∀ s s', R1 s s' → R2 s s') (ft ft' : FTab) (n : Nat) (s s' : St)
    (st st' : Stmt) (rest rest' : List Stmt)
    (h1 : ResRel R1 (exec1 ⟨ft, o⟩ n s st) (exec1 ⟨ft', o⟩ n s' st'))
    (h2 : ∀ s1 s1', R1 s1 s1' → ResRel R2 (execL ⟨ft, o⟩ n s1 rest) (execL ⟨ft', o⟩ n s1' rest')) :
    ResRel R2 (execL ⟨ft, o⟩ n s (st :: rest)) (execL ⟨ft', o⟩ n s' (st' :: rest')) := by
  rw [execL_cons, execL_cons]; exact h1.andThen hsub h2

/-- The bookkeeping while the start of a hoisted body runs.  `gl`: the function's own constants; `pro`: what is still to
    come; `doneG`: the constants already assigned (`gvals doneG`: their names and values); `s'`: the state of the hoisted run. -/
structure WeaveInv (P : String → Bool) (gl : CMap) (pro : List PEntry) (doneG : CMap) (s' : St) : Prop where
  eq : doneG ++ ghostsOf pro = gl
  loc : ∀ a, a ∈ gnames (ghostsOf pro) → s'.isLocal a = true ∧ P a = false

section
variable {gl doneG : CMap} {pro : List PEntry} {c : Const} {a : String}

theorem WeaveInv.fresh (I : WeaveInv P gl (.ghost c a :: pro) doneG s') (hnd : (gnames gl).Nodup) (b : String) (w : Val)
    (hm : (b, w) ∈ gvals doneG) : b ≠ a := by
  rintro rfl
  rw [← I.eq, gnames_append, List.nodup_append] at hnd
  exact hnd.2.2 b (gvals_names doneG b w hm) b List.mem_cons_self rfl

theorem WeaveInv.ghost (I : WeaveInv P gl (.ghost c a :: pro) doneG s') (v : Val) :
    WeaveInv P gl pro (doneG ++ [(c, a)]) (s'.assign a v) where
  eq := by rw [List.append_assoc]; exact I.eq
  loc b hb := by
    rw [isLocal_assign]
    exact I.loc b (List.mem_cons_of_mem _ hb)

theorem WeaveInv.keep (I : WeaveInv P gl (.keep :: pro) doneG s') (x : String) (v : Val) :
    WeaveInv P gl pro doneG (s'.assign x v) :=
  { I with loc := fun b hb => by rw [isLocal_assign]; exact I.loc b hb }

end

/-- The woven start, entry by entry: an inserted assignment runs in the hoisted run only and puts the constant in place
    (`RelH.ghostLocal`); a copy that stays runs in both; then the rest of the body is hoisted (`hrest`). -/
theorem weave_exec (ft ft' : FTab) (k : Nat) (g : CMap)
    (gl : CMap) (hgl : ∀ p, p ∈ gl → (constVal p.1).isSome = true) (hnd : (gnames gl).Nodup)
    (hrest : ∀ (s s' : St) (l : List Stmt), RelH P GA GG (gvals gl) s s' → okHL g P l = true →
      ResRel (RelH P GA GG (gvals gl)) (execL ⟨ft, o⟩ k s l) (execL ⟨ft', o⟩ k s' (l.map (hoistStmt g)))) :
    ∀ (pro : List PEntry) (rest : List Stmt) (doneG : CMap) (s s' : St),
      RelH P GA GG (gvals doneG) s s' → keepsOK pro rest = true → okHL g P rest = true → WeaveInv P gl pro doneG s' →
      ResRel (RelOut GA GG) (execL ⟨ft, o⟩ k s rest) (execL ⟨ft', o⟩ k s' (weave (hoistStmt g) pro rest))
  | [], rest => fun doneG s s' h _ hok I => by
    simp only [weave]
    cases (List.append_nil doneG).symm.trans I.eq
    exact ResRel.mono (fun _ _ hr => hr.toOut) _ _ (hrest s s' rest h hok)
  | .ghost c a :: pro, rest => fun doneG s s' h hk hok I => by
    simp only [weave]
    have hv := hgl (c, a) (I.eq ▸ List.mem_append_right doneG List.mem_cons_self)
    cases hcv : constVal c with
    | none => simp [hcv] at hv
    | some v =>
      rw [execL_cons, exec1_ghost ft' k s' c a v hcv]
      have hla := I.loc a List.mem_cons_self
      have hg : gvals (doneG ++ [(c, a)]) = gvals doneG ++ [(a, v)] := by
        rw [gvals_append]; simp only [gvals, hcv, List.append_nil]
      exact weave_exec ft ft' k g gl hgl hnd hrest pro rest (doneG ++ [(c, a)]) s (s'.assign a v)
        (hg ▸ h.ghostLocal a v hla.1 hla.2 (I.fresh hnd)) hk hok (I.ghost v)
  | .keep :: pro, st :: rest => fun doneG s s' h hk hok I => by
    simp only [weave]
    simp only [keepsOK, Bool.and_eq_true] at hk
    obtain ⟨hn, hok'⟩ := names_cons hok
    have hcopy := hk.1
    unfold isCopyStmt at hcopy
    split at hcopy
    · rename_i x c1 p c2
      have hP : P x = true ∧ P p = true := by simpa using show (P x && (P p && true)) = true from hn
      rw [execL_cons, execL_cons, exec1_assign_name _ _ _ _ _ _ rfl, exec1_assign_name _ _ _ _ _ _ rfl]
      unfold evalThen
      rw [evalE_name_h h p c2 hP.2]
      cases evalE s (.name p c2) with
      | none => trivial
      | some r =>
        cases r with
        | error e => exact ⟨rfl, h.toOut⟩
        | ok v =>
          exact weave_exec ft ft' k g gl hgl hnd hrest pro rest doneG (s.assign x v) (s'.assign x v)
            (h.assign x hP.1 v) hk.2 hok' (I.keep x v)
    · simp at hcopy
  | .keep :: pro, [] => fun _ _ _ _ hk _ _ => by simp [keepsOK] at hk

theorem hoistBody_eq_map (g : CMap) : ∀ l : List Stmt, hoistBody g l = l.map (hoistStmt g)
  | [] => by simp [hoistBody]
  | st :: rest => by simp [hoistBody, hoistBody_eq_map g rest]

structure FnHFacts (gm : CMap) (pro : List PEntry) (ps : List String) (b : List Stmt) (bound bound' : List String) : Prop where
  fresh : ∀ x, x ∈ fnNames ps b → x ∉ gnames (ghostsOf pro ++ gm)
  vals : ∀ p, p ∈ ghostsOf pro ++ gm → (constVal p.1).isSome = true
  nodup : (gnames (ghostsOf pro ++ gm)).Nodup
  keeps : keepsOK pro (b.dropWhile isDocStmt) = true
  locEq : ∀ x, x ∈ fnNames ps b →
    isLoc ps bound' (declaredGlobals (hoistFnBody (ghostsOf pro ++ gm) pro b)) x = isLoc ps bound (declaredGlobals b) x
  locL : ∀ a, a ∈ gnames (ghostsOf pro) → isLoc ps bound' (declaredGlobals (hoistFnBody (ghostsOf pro ++ gm) pro b)) a = true
  locG : ∀ a, a ∈ gnames gm → isLoc ps bound' (declaredGlobals (hoistFnBody (ghostsOf pro ++ gm) pro b)) a = false

theorem fnHoistOK_facts (gm : CMap) (pro : List PEntry) (ps : List String) (b : List Stmt) (bound bound' : List String)
    (hb : bindTop b = some bound) (hb' : bindTop (hoistFnBody (ghostsOf pro ++ gm) pro b) = some bound')
    (h : fnHoistOK gm pro ps b = true) : FnHFacts gm pro ps b bound bound' := by
  unfold fnHoistOK at h
  simp only [hb, hb', Bool.and_eq_true, List.all_eq_true, Bool.not_eq_true', beq_iff_eq, decide_eq_true_eq] at h
  obtain ⟨⟨⟨⟨⟨⟨⟨hfresh, hvals⟩, hnodup⟩, hkeeps⟩, _⟩, hlocEq⟩, hlocL⟩, hlocG⟩ := h
  exact
    { fresh := fun x hx hm => by
        have := hfresh x hx
        simp only [List.contains_eq_mem, decide_eq_false_iff_not] at this
        exact this hm
      vals := hvals, nodup := hnodup, keeps := hkeeps, locEq := hlocEq, locL := hlocL, locG := hlocG }

theorem fnHoistOK_isSome (gm : CMap) (pro : List PEntry) (ps : List String) (b : List Stmt) (h : fnHoistOK gm pro ps b = true) :
    (bindTop (hoistFnBody (ghostsOf pro ++ gm) pro b)).isSome = (bindTop b).isSome := by
  unfold fnHoistOK at h
  simp only [Bool.and_eq_true] at h
  exact beq_iff_eq.mp h.1.1.1.2

def TableOKH (w : HoistW) (ft : FTab) : Prop :=
  ∀ f ps b, ft.lookup f = some (ps, b) → fnHoistOK w.gmod (w.proFn f) ps b = true

theorem okHL_dropWhile (g : CMap) : ∀ l : List Stmt, okHL g P l = true → okHL g P (l.dropWhile isDocStmt) = true
  | [] => fun h => h
  | st :: rest => fun h => by
    simp only [List.dropWhile_cons]
    split
    · exact okHL_dropWhile g rest (names_cons h).2
    · exact h

theorem calleeOKH_of (w : HoistW) (ft : FTab) (htab : TableOKH w ft) (k : Nat)
    (hlist : ∀ (g : CMap) (P : String → Bool) (GL : List (String × Val)), Cons g (gvals w.gmod) GL → StatH P → ∀ s s',
      RelH P (gnames w.gmod) (gvals w.gmod) GL s s' → ∀ l, okHL g P l = true →
      ResRel (RelH P (gnames w.gmod) (gvals w.gmod) GL) (execL ⟨ft, o⟩ k s l) (execL ⟨hoistFT w ft, o⟩ k s' (hoistBody g l))) :
    CalleeOKH o w ft (gnames w.gmod) (gvals w.gmod) k := by
  intro f ps b bound bound' hl hb hb' g g' out imps vs hgg hgh hvs hlen
  have F := fnHoistOK_facts w.gmod (w.proFn f) ps b bound bound' hb hb' (htab f ps b hl)
  have hgfn : w.gfn f = ghostsOf (w.proFn f) ++ w.gmod := rfl
  rw [hgfn] at hb' ⊢
  generalize w.proFn f = pro at F hb' ⊢
  generalize hgm : w.gmod = gm at F hgg hgh hb' hlist ⊢
  have hS : StatH (fnP ps b) := fun r hr => (fnP_iff ps b r).mpr (mem_fnNames_res ps b r hr)
  apply asCall_rel
  rw [execL_dropWhile_doc ft k _ b]
  let s0' : St := { globals := g', locals := some (ps.zip vs), declGlobal := declaredGlobals (hoistFnBody (ghostsOf pro ++ gm) pro b),
                    out := out, imports := imps, localNames := ps ++ canonNames bound' }
  let s0 : St := { globals := g, locals := some (ps.zip vs), declGlobal := declaredGlobals b, out := out, imports := imps,
                   localNames := ps ++ canonNames bound }
  have hloc0 : ∀ x, s0'.isLocal x = isLoc ps bound' (declaredGlobals (hoistFnBody (ghostsOf pro ++ gm) pro b)) x := by
    intro x; rw [isLocal_inner]; rfl
  have hlocS : ∀ x, s0.isLocal x = isLoc ps bound (declaredGlobals b) x := by
    intro x; rw [isLocal_inner]; rfl
  have hPfresh : ∀ a, a ∈ gnames (ghostsOf pro ++ gm) → fnP ps b a = false := fun a ha =>
    Bool.eq_false_iff.mpr fun hp => F.fresh a ((fnP_iff ps b a).mp hp) ha
  have hrel : RelH (fnP ps b) (gnames gm) (gvals gm) [] s0 s0' :=
    { out := rfl, imports := rfl, mode := rfl, gget := hgg
      isLocal := fun x hx => by rw [hloc0, hlocS]; exact F.locEq x ((fnP_iff ps b x).mp hx)
      lget := fun x _ _ => rfl
      gghost := fun a v hm => ⟨by rw [hloc0]; exact F.locG a (gvals_names gm a v hm), hgh a v hm⟩
      lghost := fun _ _ hm => nomatch hm
      ggA := gvals_names gm
      freshA := fun a ha => hPfresh a (by rw [gnames_append]; exact List.mem_append_right _ ha)
      freshL := fun _ _ hm => nomatch hm }
  show ResRel _ _ (execL ⟨hoistFT w ft, o⟩ k s0' (hoistFnBody (ghostsOf pro ++ gm) pro b))
  unfold hoistFnBody
  rw [execL_takeWhile_doc]
  have hokL : okHL (ghostsOf pro ++ gm) (fnP ps b) b = true := by
    unfold okHL
    rw [List.all_eq_true]
    intro x hx
    exact (fnP_iff ps b x).mpr (mem_fnNames_body ps b x hx)
  refine weave_exec (GA := gnames gm) (GG := gvals gm) ft (hoistFT w ft) k (ghostsOf pro ++ gm) (ghostsOf pro)
    (fun p hp => F.vals p (List.mem_append_left _ hp)) ?_ ?_
    pro (b.dropWhile isDocStmt) [] s0 s0' hrel F.keeps (okHL_dropWhile _ b hokL) ⟨rfl, ?_⟩
  · have := F.nodup
    rw [gnames_append] at this
    exact (List.nodup_append.mp this).1
  · intro s s' l hr hok
    have := hlist (ghostsOf pro ++ gm) (fnP ps b) _
      (cons_of (ghostsOf pro) gm _ F.vals fun k a v hm hv => mem_gvals.mpr ⟨k, hm, hv⟩) hS s s' hr l hok
    rw [hoistBody_eq_map] at this
    exact this
  · intro a ha
    exact ⟨by rw [hloc0]; exact F.locL a ha, hPfresh a (by rw [gnames_append]; exact List.mem_append_left _ ha)⟩

theorem goodH_all (w : HoistW) (ft : FTab) (htab : TableOKH w ft) (n : Nat) :
    GoodH o w ft (gnames w.gmod) (gvals w.gmod) n := by
  have hst : StaticOKH w ft := fun f ps b hl => fnHoistOK_isSome w.gmod (w.proFn f) ps b (htab f ps b hl)
  induction n using Nat.strongRecOn with
  | _ n ih =>
    exact ⟨fun g P GL hc hs s s' h st hok => exec1_h w ft hst n ih hs hc st s s' h hok,
      fun g P GL hc hs s s' h l hok => execL_h w ft hst n ih hs hc l s s' h hok,
      calleeOKH_of w ft htab n (fun g P GL hc hs s s' h l hok => execL_h w ft hst n ih hs hc l s s' h hok)⟩

theorem weave_ghosts (f : Stmt → Stmt) : ∀ (pro : List PEntry) (rest : List Stmt), keepCount pro = 0 →
    weave f pro rest = (ghostsOf pro).map (fun p => ghostStmt p.1 p.2) ++ rest.map f
  | [], rest => fun _ => by simp [weave, ghostsOf]
  | .ghost c a :: pro, rest => fun h => by
    simp only [weave, ghostsOf, List.map_cons, List.cons_append]
    rw [weave_ghosts f pro rest h]
  | .keep :: pro, rest => fun h => by simp [keepCount] at h

theorem modGhosts_run (ft : FTab) (k : Nat) : ∀ (gs : CMap) (s' : St), s'.locals = none →
    (∀ p, p ∈ gs → (constVal p.1).isSome = true) → (gnames gs).Nodup →
    ∃ s1', execL ⟨ft, o⟩ k s' (gs.map (fun p => ghostStmt p.1 p.2)) = .ok (.normal s1') ∧
      s1'.out = s'.out ∧ s1'.imports = s'.imports ∧ s1'.locals = none ∧
      (∀ x, x ∉ gnames gs → Env.get s1'.globals x = Env.get s'.globals x) ∧
      (∀ a v, (a, v) ∈ gvals gs → Env.get s1'.globals a = some v)
  | [] => fun s' hl _ _ => ⟨s', execL_nil .., rfl, rfl, hl, fun _ _ => rfl, by intro a v hm; simp [gvals] at hm⟩
  | (c, a) :: rest => fun s' hl hv hnd => by
    have hcv := hv (c, a) (by simp)
    cases hc : constVal c with
    | none => simp [hc] at hcv
    | some v =>
      have hnl : s'.isLocal a = false := by unfold St.isLocal; simp [hl]
      simp only [gnames, List.map_cons, List.nodup_cons] at hnd
      obtain ⟨s1', he, ho, hi, hl1, hg1, hg2⟩ := modGhosts_run ft k rest (s'.assign a v)
        (by rw [locals_assign, hnl]; exact hl) (fun p hp => hv p (by simp [hp])) hnd.2
      refine ⟨s1', ?_, ?_, ?_, hl1, ?_, ?_⟩
      · rw [List.map_cons, execL_cons, exec1_ghost ft k s' c a v hc]
        exact he
      · rw [ho, out_assign]
      · rw [hi, imports_assign]
      · intro x hx
        simp only [gnames, List.map_cons, List.mem_cons, not_or] at hx
        rw [hg1 x (by simpa [gnames] using hx.2), globals_assign, hnl, if_neg Bool.false_ne_true, Env.get_set]
        have : (x == a) = false := by simpa using hx.1
        simp [this]
      · intro b w hm
        simp only [gvals, hc, List.mem_append, List.mem_singleton, Prod.mk.injEq] at hm
        rcases hm with ⟨rfl, rfl⟩ | hm
        · rw [hg1 b (by simpa [gnames] using hnd.1), globals_assign, hnl, if_neg Bool.false_ne_true, Env.get_set]
          simp
        · exact hg2 b w hm

theorem hoistTop_notDef (w : HoistW) (st : Stmt) (h : isTableDef st = false) : hoistTop w st = hoistStmt w.gmod st := by
  unfold hoistTop
  split
  · simp [isTableDef] at h
  · rfl

theorem execTop_h (w : HoistW) (ft : FTab) (htab : TableOKH w ft) (n : Nat) (Pm : String → Bool) (hs : StatH Pm)
    (hc : Cons w.gmod (gvals w.gmod) []) (l : List Stmt) (s s' : St) (h : RelH Pm (gnames w.gmod) (gvals w.gmod) [] s s')
    (hok : ∀ st, st ∈ l → okHS w.gmod Pm st = true) :
    ResRel (RelH Pm (gnames w.gmod) (gvals w.gmod) []) (execL ⟨ft, o⟩ n s l) (execL ⟨hoistFT w ft, o⟩ n s' (l.map (hoistTop w))) := by
  refine Runs.rel_eq.mp (SimL.map (K := hoistRuns o w ft) (N := n) (fun st hm => ?_) n (Nat.le_refl n) s s' h)
  cases hd : isTableDef st with
  | true => obtain ⟨f, args, b, rfl⟩ := isTableDef_eq hd; exact .tableDef f args b _
  | false =>
    rw [hoistTop_notDef w st hd]
    exact fun k _ s s' h => .of_rel ((goodH_all (o := o) w ft htab k).1 w.gmod Pm [] hc hs s s' h st (hok st hm))

theorem defOf_hoistStmt (g : CMap) (st : Stmt) : defOf (hoistStmt g st) = defOf st := by
  cases st
  case expr e => simp only [hoistStmt]; split <;> rfl
  all_goals rfl

theorem defOf_hoistTop (w : HoistW) (st : Stmt) :
    defOf (hoistTop w st) = (defOf st).map (fun e => (e.1, e.2.1, hoistFnBody (w.gfn e.1) (w.proFn e.1) e.2.2)) := by
  cases hd : isTableDef st with
  | true =>
    obtain ⟨f, args, b, rfl⟩ := isTableDef_eq hd
    simp only [hoistTop, defOf]
    cases paramNames args <;> rfl
  | false => rw [hoistTop_notDef w st hd, defOf_hoistStmt, defOf_notDef st hd]; rfl

theorem collect_eq_nil : ∀ l : List Stmt, (∀ st ∈ l, defOf st = none) → collect l = []
  | [] => fun _ => rfl
  | st :: rest => fun h => by
    simp only [collect, h st List.mem_cons_self]
    exact collect_eq_nil rest fun st' hm => h st' (List.mem_cons_of_mem _ hm)

theorem collect_docs (l : List Stmt) : collect (l.takeWhile isDocStmt) = [] :=
  collect_eq_nil _ fun st hm => by
    have hd := List.all_eq_true.mp List.all_takeWhile st hm
    unfold isDocStmt at hd
    split at hd
    · rfl
    · cases hd

theorem collect_ghosts (gs : CMap) : collect (gs.map (fun p => ghostStmt p.1 p.2)) = [] :=
  collect_eq_nil _ fun st hm => by obtain ⟨p, _, rfl⟩ := List.mem_map.mp hm; rfl

theorem collect_dropDocs (l : List Stmt) : collect (l.dropWhile isDocStmt) = collect l := by
  conv => rhs; rw [← List.takeWhile_append_dropWhile (p := isDocStmt) (l := l)]
  rw [collect_append, collect_docs]; rfl

/-- the observable of the hoisted run, up to the names that hold the constants -/
structure ObsEq (GA : List String) (o' o : Obs) : Prop where
  out : o'.out = o.out
  ending : o'.ending = o.ending
  imports : o'.imports = o.imports
  globals : ∀ x, x ∉ GA → Env.get o'.globals x = Env.get o.globals x

theorem observe_relH {Pm : String → Bool} {GA : List String} {GG : List (String × Val)} (r r' : Res Flow)
    (h : ResRel (RelH Pm GA GG []) r r') (fb : St) : ObsEq GA (observe r' fb) (observe r fb) := by
  cases h.sim with
  | stuck => exact ⟨rfl, rfl, rfl, fun _ _ => rfl⟩
  | timeout => exact ⟨rfl, rfl, rfl, fun _ _ => rfl⟩
  | _ q => exact ⟨q.out, rfl, q.imports, q.gget⟩

theorem okHS_of_topNames (g : CMap) (Pm : String → Bool) : ∀ l : List Stmt, (topNames l).all Pm = true →
    ∀ st, st ∈ l → okHS g Pm st = true
  | [] => fun _ _ hm => nomatch hm
  | st0 :: rest => fun hn st hm => by
    have hsplit : (namesS st0).all Pm = true ∧ (topNames rest).all Pm = true := by
      cases st0
      case functionDef => exact ⟨rfl, hn⟩
      all_goals
        simp only [topNames, List.all_append, Bool.and_eq_true] at hn
        exact hn
    rcases List.mem_cons.mp hm with rfl | hm
    · exact hsplit.1
    · exact okHS_of_topNames g Pm rest hsplit.2 st hm

/-- T01.14: a module whose repeated literals were hoisted into names (the module's after its docstring, a function's
    own after the function's docstring, possibly between the parameter copies the renamer inserted) behaves like the
    original: same printed lines, same ending, same import events, and every global that is not one of the new names
    has the same value — for every fuel — provided the witness satisfies the checkable condition `hoistOK`. -/
theorem runWith_hoistModule (w : HoistW) (m : Module) (h : hoistOK w m = true) (n : Nat) :
    ObsEq (gnames w.gmod) (runWith o n (hoistModule w m)) (runWith o n m) := by
  unfold hoistOK at h
  simp only [Bool.and_eq_true, beq_iff_eq, decide_eq_true_eq] at h
  obtain ⟨⟨⟨⟨hk, hvals⟩, hnd⟩, hfresh⟩, hfns⟩ := h
  rw [List.all_eq_true] at hvals
  have htab : TableOKH w (collect m.body) := fun f ps b hl =>
    List.all_eq_true.mp hfns (f, ps, b) (lookup_mem _ f (ps, b) hl)
  let Pm : String → Bool := fun x => !(gnames w.gmod).contains x
  have hfresh' : (reserved ++ topNames m.body).all Pm = true := hfresh
  rw [List.all_append, Bool.and_eq_true] at hfresh'
  have hs : StatH Pm := List.all_eq_true.mp hfresh'.1
  have hc : Cons w.gmod (gvals w.gmod) [] := cons_of [] w.gmod [] hvals fun _ _ _ hm => nomatch hm
  have htop : ∀ st, st ∈ m.body.dropWhile isDocStmt → okHS w.gmod Pm st = true := fun st hm =>
    okHS_of_topNames w.gmod Pm m.body hfresh'.2 st ((List.dropWhile_suffix _).subset hm)
  unfold runWith hoistModule
  simp only
  rw [weave_ghosts (hoistTop w) w.proMod _ hk]
  have hcol : collect (List.takeWhile isDocStmt m.body ++ (List.map (fun p => ghostStmt p.1 p.2) (ghostsOf w.proMod) ++
      List.map (hoistTop w) (List.dropWhile isDocStmt m.body))) = hoistFT w (collect m.body) := by
    rw [collect_append, collect_append, collect_docs, collect_ghosts, collect_mapBodies (T := hoistFT w)
      (B := fun g b => hoistFnBody (w.gfn g) (w.proFn g) b) rfl (fun _ _ _ _ => rfl) (defOf_hoistTop w), collect_dropDocs]
    rfl
  rw [hcol, execL_takeWhile_doc, execL_append, execL_dropWhile_doc (collect m.body) n St.init m.body]
  obtain ⟨s1', he, ho, hi, hl1, hg1, hg2⟩ := modGhosts_run (o := o) (hoistFT w (collect m.body)) n (ghostsOf w.proMod)
    St.init rfl hvals hnd
  rw [he]
  have hnl : ∀ x, s1'.isLocal x = false := by intro x; unfold St.isLocal; simp [hl1]
  have hrel : RelH Pm (gnames w.gmod) (gvals w.gmod) [] St.init s1' :=
    { out := ho, imports := hi, mode := by rw [hl1]; rfl, gget := hg1
      isLocal := fun x _ => by rw [hnl]; rfl
      lget := fun x _ hx => by simp [St.isLocal, St.init] at hx
      gghost := fun a v hm => ⟨hnl a, hg2 a v hm⟩
      lghost := fun _ _ hm => nomatch hm
      ggA := gvals_names _
      freshA := fun a ha => by simp [Pm, ha]
      freshL := fun _ _ hm => nomatch hm }
  exact observe_relH _ _ (execTop_h w (collect m.body) htab n Pm hs hc _ St.init s1' hrel htop) St.init

theorem run_hoistModule (w : HoistW) (m : Module) (h : hoistOK w m = true) (n : Nat) :
    ObsEq (gnames w.gmod) (run n (hoistModule w m)) (run n m) := runWith_hoistModule w m h n

end PMV.PyCore
