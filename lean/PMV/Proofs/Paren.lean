import PMV.Model.ParenTable
/-
  `TableOK` speaks of finitely many slots and classes (`Cls`); `prec`, `lvl` and `needExprParen` of a well-formed expression are
  those of its class, so the table entry of (slot, class) gives `slot_lvl`: wherever the printer decides by precedence, the child
  ends up at the grammar level the slot requires.
-/
namespace PMV.Printer
open PMV.Spec.Grammar

theorem gram_wrapIf (b : Bool) (x : Expr) : Gram (wrapIf b x) = Gram x := by
  cases b <;> rfl

theorem lvl_wrapIf (b : Bool) (x : Expr) : lvl (wrapIf b x) = if b then 16 else lvl x := by
  cases b <;> rfl

theorem isStarred_wrapIf (b : Bool) (x : Expr) : isStarred (wrapIf b x) = (!b && isStarred x) := by
  cases b <;> rfl

theorem gram_slotExpr (o x : Expr) : Gram (slotExpr o x) = Gram x := gram_wrapIf _ _
theorem gram_slotPrec (b : Bool) (o x : Expr) : Gram (slotPrec b o x) = Gram x :=
  (gram_wrapIf _ _).trans (gram_wrapIf _ _)

theorem parenExprs_eq_nil (t : PrecTable) (es : List Expr) : parenExprs t es = [] ↔ es = [] := by
  cases es <;> simp [parenExprs]

theorem lvl_paren (t : PrecTable) (e : Expr) : lvl (paren t e) = lvl e := by
  cases e with
  | tuple es => cases es <;> rfl
  | _ => rfl

theorem isStarred_paren (t : PrecTable) (e : Expr) : isStarred (paren t e) = isStarred e := by
  cases e <;> rfl
theorem isSlice_paren (t : PrecTable) (e : Expr) : isSlice (paren t e) = isSlice e := by
  cases e <;> rfl

theorem mem_allBinOps (op : BinOpK) : op ∈ allBinOps := by cases op <;> decide
theorem mem_allUnaryOps (op : UnaryOpK) : op ∈ allUnaryOps := by cases op <;> decide
theorem mem_allBoolOps (op : BoolOpK) : op ∈ allBoolOps := by cases op <;> decide
theorem mem_allCmpOps (op : CmpOpK) : op ∈ allCmpOps := by cases op <;> decide

theorem cmpOp_prec {t : PrecTable} (hc : cmpAllSame t = true) (o : CmpOpK) : t.get (cmpOpName o) = cmpP t := by
  simpa using List.all_eq_true.mp hc o (mem_allCmpOps o)

theorem prec_compare (t : PrecTable) (hc : cmpAllSame t = true) (l : Expr) (ops : List CmpOpK) (cs : List Expr)
    (hne : ops.length ≥ 1) : prec t (.compare l ops cs) = cmpP t := by
  cases ops with
  | nil => simp at hne
  | cons o os =>
    clear hne
    simp only [prec, List.map_cons, cmpOp_prec hc o]
    induction os with
    | nil => rfl
    | cons o' os ih => rw [List.map_cons, List.foldl_cons, cmpOp_prec hc o', Nat.min_self]; exact ih

theorem prec_eq_precC (t : PrecTable) (hc : cmpAllSame t = true) (e : Expr) (hwf : WF e = true) :
    prec t e = precC t (clsOf e) := by
  cases e with
  | compare l ops cs =>
    have : ops.length ≥ 1 := by
      simp only [WF, Bool.and_eq_true, decide_eq_true_eq] at hwf
      exact hwf.1.2
    rw [prec_compare t hc l ops cs this]; rfl
  | tuple es => cases es <;> rfl
  | _ => rfl

theorem lvl_eq_lvlC (e : Expr) (hp : proper e = true) : lvl e = lvlC (clsOf e) := by
  cases e with
  | tuple es => cases es <;> rfl
  | starred v => simp [proper, isStarred] at hp
  | slice l u s => simp [proper, isStarred, isSlice] at hp
  | _ => rfl

theorem needExprParen_eq (e : Expr) : needExprParen e = kindParen (clsOf e) := by
  cases e with
  | tuple es => cases es <;> rfl
  | _ => rfl

theorem cls_mem (c : Cls) : c ∈ Cls.all := by
  simp only [Cls.all, List.mem_append, List.mem_map]
  cases c with
  | boolOp op => exact .inl (.inl (.inl ⟨op, mem_allBoolOps op, rfl⟩))
  | binOp op => exact .inl (.inl (.inr ⟨op, mem_allBinOps op, rfl⟩))
  | unaryOp op => exact .inl (.inr ⟨op, mem_allUnaryOps op, rfl⟩)
  | _ => exact .inr (by decide)

theorem slot_mem (s : Slot) : s ∈ Slot.all := by
  simp only [Slot.all, List.mem_append, List.mem_map]
  cases s with
  | binL op => exact .inl (.inl (.inl (.inl ⟨op, mem_allBinOps op, rfl⟩)))
  | binR op => exact .inl (.inl (.inl (.inr ⟨op, mem_allBinOps op, rfl⟩)))
  | unary op => exact .inl (.inl (.inr ⟨op, mem_allUnaryOps op, rfl⟩))
  | boolVal op => exact .inl (.inr ⟨op, mem_allBoolOps op, rfl⟩)
  | _ => exact .inr (by decide)

theorem need_le_16 (s : Slot) : s.need ≤ 16 := by
  cases s with
  | binL op => cases op <;> decide
  | binR op => cases op <;> decide
  | unary op => cases op <;> decide
  | boolVal op => cases op <;> decide
  | _ => decide

theorem tableOK_cmp {t : PrecTable} (h : TableOK t = true) : cmpAllSame t = true := by
  simp only [TableOK, Bool.and_eq_true] at h; exact h.1

theorem tableOK_entry {t : PrecTable} (h : TableOK t = true) (s : Slot) (c : Cls) (hc : c ∈ Cls.all) :
    entryOK t s c = true := by
  simp only [TableOK, Bool.and_eq_true] at h
  exact List.all_eq_true.mp (List.all_eq_true.mp h.2 s (slot_mem s)) c hc

theorem lvl_slotPrec (t : PrecTable) (b : Bool) (e : Expr) :
    lvl (slotPrec b e (paren t e)) = if b || needExprParen e then 16 else lvl e := by
  cases b <;> cases h : needExprParen e <;> simp [slotPrec, slotExpr, lvl_wrapIf, lvl_paren, h]

/-- `b` is the table's decision, or more: a child parenthesised at least where the table says meets the slot's grammar level. -/
theorem slot_lvl (t : PrecTable) (h : TableOK t = true) (s : Slot) (c : Expr)
    (hwf : WF c = true) (hp : proper c = true) (b : Bool) (hb : s.decide t (prec t c) = true → b = true) :
    lvl (slotPrec b c (paren t c)) ≥ s.need := by
  rw [lvl_slotPrec, needExprParen_eq]
  split
  · exact need_le_16 s
  · rename_i hw
    -- left bare: of the three ways `entryOK` can hold for the child's class, only the level is left
    have he := tableOK_entry h s (clsOf c) (cls_mem _)
    rw [entryOK, ← prec_eq_precC t (tableOK_cmp h) c hwf, Bool.or_eq_true, decide_eq_true_eq, Bool.or_eq_true] at he
    rw [Bool.or_eq_true, not_or] at hw
    rw [lvl_eq_lvlC c hp]
    rcases he with (hd | hk) | hl
    · exact absurd (hb hd) hw.1
    · exact absurd hk hw.2
    · exact hl

/-- `_expression` wraps exactly the operands (`proper`) that are below `expression` in the grammar. -/
theorem needExprParen_eq_lvl (e : Expr) : needExprParen e = (lvl e == 0 && proper e) := by
  cases e with
  | tuple es => cases es <;> rfl
  | boolOp op _ => cases op <;> rfl
  | binOp _ op _ => cases op <;> rfl
  | unaryOp op _ => cases op <;> rfl
  | _ => rfl

theorem lvl_slotExpr (t : PrecTable) (e : Expr) :
    lvl (slotExpr e (paren t e)) = if lvl e = 0 ∧ proper e = true then 16 else lvl e := by
  simp [slotExpr, lvl_wrapIf, lvl_paren, needExprParen_eq_lvl]

theorem expr_slot_lvl (t : PrecTable) (e : Expr) (hp : proper e = true) : lvl (slotExpr e (paren t e)) ≥ 1 := by
  rw [lvl_slotExpr]; simp only [hp, and_true]; split <;> omega

theorem item_ok (t : PrecTable) (e : Expr) : itemOK (slotExpr e (paren t e)) = true := by
  cases hp : proper e with
  | true => simp [itemOK, expr_slot_lvl t e hp]
  | false =>
    -- a starred item or a slice is not wrapped, and is still one
    have hn : needExprParen e = false := by rw [needExprParen_eq_lvl, hp, Bool.and_false]
    rw [slotExpr, hn, wrapIf, if_neg Bool.false_ne_true, itemOK, isStarred_paren, isSlice_paren]
    simp only [proper, Bool.and_eq_false_iff, Bool.not_eq_false'] at hp
    rcases hp with h | h <;> simp [h]

end PMV.Printer
