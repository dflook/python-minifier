import PMV.Spec.PyCore
import PMV.Proofs.Transforms
/-
  `bindL` and `bindTop` are one fold `obind`, over `bindS` and `bindS0`: flatMap and map are treated once for both.
  `BindOK t`: the traversal of a suite transformer keeps the bound names when its pieces do.
-/
namespace PMV.PyCore
open PMV PMV.Transforms

theorem mem_insertName (x z : String) : ∀ l : List String, z ∈ insertName x l ↔ z = x ∨ z ∈ l
  | [] => by simp [insertName]
  | y :: ys => by
    simp only [insertName]
    split
    · rename_i h
      have : x = y := by simpa using h
      subst this
      simp
    · split
      · simp
      · simp only [List.mem_cons, mem_insertName x z ys]; exact or_left_comm

/-- the semantics only asks whether a name is in the list -/
theorem mem_canonNames (z : String) : ∀ l : List String, z ∈ canonNames l ↔ z ∈ l
  | [] => by simp [canonNames]
  | x :: xs => by
    have ih := mem_canonNames z xs
    simp only [canonNames, List.foldr_cons] at ih ⊢
    rw [mem_insertName, ih]; simp

/-- what `defOf` and `isPlainDef` ask of the head of a `def` -/
def plainHead (a : Bool) (decs : List Expr) (ret : Option Expr) (tps : List TypeParam) : Bool :=
  !a && decs.isEmpty && ret.isNone && tps.isEmpty

theorem plainHead_congr (a : Bool) {decs decs' : List Expr} {ret ret' : Option Expr} {tps tps' : List TypeParam}
    (hd : decs'.isEmpty = decs.isEmpty) (hr : ret'.isNone = ret.isNone) (ht : tps'.isEmpty = tps.isEmpty) :
    plainHead a decs' ret' tps' = plainHead a decs ret tps := by
  unfold plainHead; rw [hd, hr, ht]

theorem isPlainDef_functionDef (a : Bool) (n : String) (args : Arguments) (body : List Stmt) (decs : List Expr)
    (ret : Option Expr) (tps : List TypeParam) :
    isPlainDef (.functionDef a n args body decs ret tps) = (plainHead a decs ret tps && (paramNames args).isSome) := by
  cases a <;> cases decs <;> cases ret <;> cases tps <;> rfl

theorem defOf_functionDef (a : Bool) (n : String) (args : Arguments) (body : List Stmt) (decs : List Expr)
    (ret : Option Expr) (tps : List TypeParam) :
    defOf (.functionDef a n args body decs ret tps) =
      if plainHead a decs ret tps then (paramNames args).map (fun ps => (n, ps, body)) else none := by
  cases a with
  | true => rfl
  | false =>
  cases decs with
  | cons _ _ => rfl
  | nil =>
  cases ret with
  | some _ => rfl
  | none =>
  cases tps with
  | cons _ _ => rfl
  | nil => simp only [defOf, plainHead]; cases paramNames args <;> rfl

/-- at the top level of a function body a `global` declaration is allowed -/
def bindS0 : Stmt → Option (List String)
  | .global _ => some []
  | st => bindS st

def obind (f : Stmt → Option (List String)) : List Stmt → Option (List String)
  | [] => some []
  | st :: rest => oapp (f st) (obind f rest)

theorem bindS0_of_bindS (st : Stmt) {l : List String} (h : bindS st = some l) : bindS0 st = some l := by
  cases st with
  | global => simp [bindS] at h
  | _ => exact h

theorem bindL_eq : ∀ b : List Stmt, bindL b = obind bindS b
  | [] => rfl
  | st :: rest => congrArg (oapp (bindS st)) (bindL_eq rest)

@[simp] theorem oapp_nil_left (a : Option (List String)) : oapp (some []) a = a := by cases a <;> rfl
@[simp] theorem oapp_none_left (a : Option (List String)) : oapp none a = none := by cases a <;> rfl
@[simp] theorem oapp_none_right (a : Option (List String)) : oapp a none = none := by cases a <;> rfl
@[simp] theorem oapp_nil_right (a : Option (List String)) : oapp a (some []) = a := by cases a <;> simp [oapp]

theorem bindTop_eq : ∀ b : List Stmt, bindTop b = obind bindS0 b
  | [] => rfl
  | st :: rest => by
    cases st
    case global => exact (bindTop_eq rest).trans (oapp_nil_left _).symm
    all_goals exact congrArg (oapp _) (bindTop_eq rest)

theorem coreX_of_coreE (e : Expr) (h : coreE e = true) : coreX e = true := by
  unfold coreX
  split
  · simp [coreE] at h
  · exact h

theorem oguard_some {c : Bool} {r : Option (List String)} {l : List String} (h : oguard c r = some l) : c = true ∧ r = some l := by
  cases c <;> simp [oguard] at h
  exact ⟨rfl, h⟩

theorem oapp_some {x y : Option (List String)} {l : List String} (h : oapp x y = some l) :
    ∃ l1 l2, x = some l1 ∧ y = some l2 ∧ l = l1 ++ l2 := by
  cases x <;> cases y <;> simp [oapp] at h
  exact ⟨_, _, rfl, rfl, h.symm⟩

/-! `oguard` and `oapp` are monotone for "defined, with this value" (what a transform that only widens `bindS` preserves) -/

theorem oguard_mono {c : Bool} {r r' : Option (List String)} (hr : ∀ l, r = some l → r' = some l) (l : List String)
    (h : oguard c r = some l) : oguard c r' = some l := by
  obtain ⟨rfl, h'⟩ := oguard_some h; exact hr l h'

theorem oapp_mono {a a' b b' : Option (List String)} (ha : ∀ l, a = some l → a' = some l) (hb : ∀ l, b = some l → b' = some l)
    (l : List String) (h : oapp a b = some l) : oapp a' b' = some l := by
  obtain ⟨l1, l2, h1, h2, rfl⟩ := oapp_some h; rw [ha l1 h1, hb l2 h2]; rfl

theorem oapp_assoc (a b c : Option (List String)) : oapp (oapp a b) c = oapp a (oapp b c) := by
  cases a <;> cases b <;> cases c <;> simp [oapp]

theorem obind_append (f : Stmt → Option (List String)) : ∀ a b : List Stmt, obind f (a ++ b) = oapp (obind f a) (obind f b)
  | [], b => by simp [obind]
  | st :: rest, b => by simp only [List.cons_append, obind, obind_append f rest b, oapp_assoc]

theorem obind_congr (f : Stmt → Option (List String)) (g : Stmt → Stmt) (hg : ∀ st, f (g st) = f st) :
    ∀ b : List Stmt, obind f (b.map g) = obind f b
  | [] => rfl
  | st :: rest => by simp only [List.map_cons, obind, hg, obind_congr f g hg rest]

theorem obind_mono {f : Stmt → Option (List String)} {g : Stmt → Stmt} (hg : ∀ st l, f st = some l → f (g st) = some l) :
    ∀ (b : List Stmt) (l : List String), obind f b = some l → obind f (b.map g) = some l
  | [] => fun _ h => h
  | st :: rest => oapp_mono (hg st) (obind_mono hg rest)

theorem bindS_zero : bindS zeroStmt = some [] := rfl

structure BindOK (t : SuiteT) : Prop where
  stmt : ∀ st, bindS (t.stmtF st) = bindS st
  stmt0 : ∀ st, bindS0 (t.stmtF st) = bindS0 st
  suite : ∀ m b, bindL (t.suiteF m b) = bindL b
  suite0 : ∀ m b, bindTop (t.suiteF m b) = bindTop b
  body : ∀ b, bindTop (t.funcBodyF b) = bindTop b

theorem bindL_orelse (t : SuiteT) (h : BindOK t) (os : List Stmt) (ho : bindL (travBody t os) = bindL os) :
    bindL (if os.isEmpty then [] else t.suiteF false (travBody t os)) = bindL os := by
  cases os with
  | nil => rfl
  | cons x xs => simp only [List.isEmpty_cons, Bool.false_eq_true, if_false]; rw [h.suite, ho]

mutual
theorem bindS_trav (t : SuiteT) (h : BindOK t) : ∀ st : Stmt, bindS (travStmt t st) = bindS st
  | .functionDef .. | .classDef .. => (h.stmt _).trans rfl
  | .for_ false _ _ body orelse | .while_ _ body orelse | .if_ _ body orelse => by
    simp only [travStmt, bindS]
    rw [h.suite, bindL_trav t h body, bindL_orelse t h orelse (bindL_trav t h orelse)]
  | .try_ false body hs orelse fin => by
    simp only [travStmt, bindS]
    rw [h.suite, bindL_trav t h body, bindH_trav t h hs, bindL_orelse t h orelse (bindL_trav t h orelse),
      bindL_orelse t h fin (bindL_trav t h fin)]
  | .for_ true .. | .try_ true .. | .with_ .. | .match_ .. => rfl
  | .return_ _ | .delete _ | .assign .. | .typeAlias .. | .augAssign .. | .annAssign .. | .raise_ .. | .assert_ .. | .import_ ..
  | .importFrom .. | .global _ | .nonlocal _ | .expr _ | .pass | .break_ | .continue_ => h.stmt _
theorem bindL_trav (t : SuiteT) (h : BindOK t) : ∀ b : List Stmt, bindL (travBody t b) = bindL b
  | [] => rfl
  | st :: rest => by simp only [travBody, bindL]; rw [bindS_trav t h st, bindL_trav t h rest]
theorem bindH_trav (t : SuiteT) (h : BindOK t) : ∀ hs : List Handler, bindH (travHandlers t hs) = bindH hs
  | [] => rfl
  | .mk ty nm body :: rest => by simp only [travHandlers, bindH]; rw [bindL_trav t h body, bindH_trav t h rest]
end

/-- at the top level of a body only the statement's own kind matters besides `bindS` -/
theorem bindS0_trav (t : SuiteT) (h : BindOK t) : ∀ st : Stmt, bindS0 (travStmt t st) = bindS0 st
  | .functionDef .. | .classDef .. => (h.stmt0 _).trans rfl
  | .for_ .. | .while_ .. | .if_ .. | .with_ .. | .match_ .. | .try_ false .. | .try_ true .. => bindS_trav t h _
  | .return_ _ | .delete _ | .assign .. | .typeAlias .. | .augAssign .. | .annAssign .. | .raise_ .. | .assert_ .. | .import_ ..
  | .importFrom .. | .global _ | .nonlocal _ | .expr _ | .pass | .break_ | .continue_ => h.stmt0 _

theorem travBody_eq_map (t : SuiteT) : ∀ l : List Stmt, travBody t l = l.map (travStmt t)
  | [] => rfl
  | st :: rest => congrArg (travStmt t st :: ·) (travBody_eq_map t rest)

theorem bindTop_map_of (f : Stmt → Stmt) (hf : ∀ st, bindS0 (f st) = bindS0 st) (b : List Stmt) : bindTop (b.map f) = bindTop b := by
  rw [bindTop_eq, bindTop_eq, obind_congr bindS0 f hf]

theorem declaredGlobals_map (f : Stmt → Stmt) (hf : ∀ st, globalsOf (f st) = globalsOf st) :
    ∀ l : List Stmt, declaredGlobals (l.map f) = declaredGlobals l
  | [] => rfl
  | st :: rest => by simp only [List.map_cons, declaredGlobals, hf, declaredGlobals_map f hf rest]

theorem bindTop_bodyT (t : SuiteT) (h : BindOK t) (b : List Stmt) :
    bindTop (t.funcBodyF (t.suiteF false (travBody t b))) = bindTop b := by
  rw [h.body, h.suite0, travBody_eq_map]; exact bindTop_map_of _ (bindS0_trav t h) b

end PMV.PyCore
