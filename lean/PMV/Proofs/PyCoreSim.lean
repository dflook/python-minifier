import PMV.Proofs.PyCoreEqns
/-
  Every block construct of the interpreter is a congruence for `Sim1 / SimL / SimH K Q N`, so a proof that a translation
  preserves behaviour has to treat only expressions, the statements without a block, and the function table.
-/
namespace PMV.PyCore
open PMV

def FlowRel (R : St → St → Prop) : Flow → Flow → Prop
  | .normal s, .normal s' => R s s'
  | .returned v s, .returned v' s' => v = v' ∧ R s s'
  | .broke s, .broke s' => R s s'
  | .continued s, .continued s' => R s s'
  | _, _ => False

def ResRel (R : St → St → Prop) : Res Flow → Res Flow → Prop
  | .ok f, .ok f' => FlowRel R f f'
  | .raised x s, .raised x' s' => x = x' ∧ R s s'
  | .stuck, .stuck => True
  | .timeout, .timeout => True
  | _, _ => False

/-- `ResRel` as an inductive predicate: `cases h.sim` is the case analysis the lemmas on `ResRel` need -/
inductive ResSim (Q : St → St → Prop) : Res Flow → Res Flow → Prop
  | normal {s s'} : Q s s' → ResSim Q (.ok (.normal s)) (.ok (.normal s'))
  | returned {v s s'} : Q s s' → ResSim Q (.ok (.returned v s)) (.ok (.returned v s'))
  | broke {s s'} : Q s s' → ResSim Q (.ok (.broke s)) (.ok (.broke s'))
  | continued {s s'} : Q s s' → ResSim Q (.ok (.continued s)) (.ok (.continued s'))
  | raised {x s s'} : Q s s' → ResSim Q (.raised x s) (.raised x s')
  | stuck : ResSim Q .stuck .stuck
  | timeout : ResSim Q .timeout .timeout

theorem ResRel.sim {Q : St → St → Prop} {r r' : Res Flow} (h : ResRel Q r r') : ResSim Q r r' := by
  unfold ResRel at h
  split at h
  · unfold FlowRel at h
    split at h
    · exact .normal h
    · obtain ⟨rfl, h⟩ := h; exact .returned h
    · exact .broke h
    · exact .continued h
    · exact h.elim
  · obtain ⟨rfl, h⟩ := h; exact .raised h
  · exact .stuck
  · exact .timeout
  · exact h.elim

theorem ResRel.mono {Q Q' : St → St → Prop} (hq : ∀ s s', Q s s' → Q' s s') (r r' : Res Flow) (h : ResRel Q r r') :
    ResRel Q' r r' := by
  cases h.sim with
  | returned q => exact ⟨rfl, hq _ _ q⟩
  | raised q => exact ⟨rfl, hq _ _ q⟩
  | stuck => trivial
  | timeout => trivial
  | _ q => exact hq _ _ q

def Same (s s' : St) : Prop := s' = s

theorem ResRel.refl {Q : St → St → Prop} (hQ : ∀ s, Q s s) (r : Res Flow) : ResRel Q r r := by
  cases r with
  | ok fl =>
    cases fl with
    | returned v s => exact ⟨rfl, hQ s⟩
    | _ => exact hQ _
  | raised x s => exact ⟨rfl, hQ s⟩
  | stuck => trivial
  | timeout => trivial

theorem resRel_same {r r' : Res Flow} : ResRel Same r r' ↔ r' = r := by
  constructor
  · intro h
    cases h.sim with
    | stuck => rfl
    | timeout => rfl
    | _ q => rw [q]
  · intro h; rw [h]; exact ResRel.refl (Q := Same) (fun _ => rfl) r

theorem resume_rel {R : St → St → Prop} (r1 r1' : Res Flow) (h1 : ResRel R r1 r1') (s2 s2' : St) (h2 : R s2 s2') :
    ResRel R (resume r1 s2) (resume r1' s2') := by
  cases h1.sim with
  | returned _ => exact ⟨rfl, h2⟩
  | raised _ => exact ⟨rfl, h2⟩
  | stuck => trivial
  | timeout => trivial
  | _ _ => exact h2

/-- only `stuck` and `timeout` can excuse a difference, since every construct passes them on unchanged; the second run
    has more fuel only if `timeout` excuses -/
structure Runs where
  bad : Res Flow → Prop
  o : Bool
  ft : FTab
  ft' : FTab
  d : Nat
  absorbed : ∀ r, bad r → r = .stuck ∨ r = .timeout
  extra : d = 0 ∨ bad .timeout

def Runs.eq (o : Bool) (ft ft' : FTab) : Runs := ⟨fun _ => False, o, ft, ft', 0, fun _ h => h.elim, .inl rfl⟩

def Runs.le (o : Bool) (ft ft' : FTab) : Runs := ⟨fun r => r = .stuck, o, ft, ft', 0, fun _ h => .inl h, .inl rfl⟩

def Runs.more (o : Bool) (ft : FTab) (d : Nat) : Runs := ⟨fun r => r = .timeout, o, ft, ft, d, fun _ h => .inr h, .inr rfl⟩

def Runs.Rel (K : Runs) (Q : St → St → Prop) (r r' : Res Flow) : Prop := K.bad r ∨ ResRel Q r r'

def ValOK {α : Type} (bad : Res Flow → Prop) (r r' : Option (Except String α)) : Prop := (r = none ∧ bad .stuck) ∨ r' = r

theorem ValOK.of_eq {α : Type} {bad : Res Flow → Prop} {r r' : Option (Except String α)} (h : r' = r) : ValOK bad r r' := Or.inr h

section
variable {K : Runs} {Q Q' : St → St → Prop}

theorem Runs.Rel.of_rel {r r' : Res Flow} (h : ResRel Q r r') : K.Rel Q r r' := Or.inr h

theorem Runs.Rel.same {r : Res Flow} : K.Rel Same r r := Or.inr (resRel_same.mpr rfl)

theorem Runs.rel_same {r r' : Res Flow} : K.Rel Same r r' ↔ K.bad r ∨ r' = r := or_congr Iff.rfl resRel_same

theorem Runs.rel_eq {o : Bool} {ft ft' : FTab} {r r' : Res Flow} : (Runs.eq o ft ft').Rel Q r r' ↔ ResRel Q r r' :=
  ⟨fun h => h.resolve_left id, Or.inr⟩

/-- the one argument behind the congruence lemmas -/
theorem Runs.Rel.through {r r' : Res Flow} (h : K.Rel Q r r') (F F' : Res Flow → Res Flow)
    (hs : F .stuck = .stuck) (ht : F .timeout = .timeout) (hF : ResRel Q r r' → K.Rel Q' (F r) (F' r')) :
    K.Rel Q' (F r) (F' r') := by
  rcases h with h | h
  · left
    rcases K.absorbed r h with e | e
    · rw [e, hs, ← e]; exact h
    · rw [e, ht, ← e]; exact h
  · exact hF h

theorem Runs.Rel.andThen (hq : ∀ s s', Q s s' → Q' s s') {r r' : Res Flow} (h : K.Rel Q r r') {k k' : St → Res Flow}
    (hk : ∀ s s', Q s s' → K.Rel Q' (k s) (k' s')) : K.Rel Q' (r.andThen k) (r'.andThen k') :=
  h.through (·.andThen k) (·.andThen k') rfl rfl fun hr => by
    cases hr.sim with
    | normal q => exact hk _ _ q
    | _ => exact .of_rel (ResRel.mono hq _ _ hr)

theorem Runs.Rel.loopStep {r r' : Res Flow} (h : K.Rel Q r r') {k k' : St → Res Flow}
    (hk : ∀ s s', Q s s' → K.Rel Q (k s) (k' s')) : K.Rel Q (r.loopStep k) (r'.loopStep k') :=
  h.through (·.loopStep k) (·.loopStep k') rfl rfl fun hr => by
    cases hr.sim with
    | normal q => exact hk _ _ q
    | continued q => exact hk _ _ q
    | broke q => exact .of_rel q
    | _ => exact .of_rel hr

theorem Runs.Rel.asCall {r r' : Res Flow} (h : K.Rel Q r r') : K.Rel Q (PyCore.asCall r) (PyCore.asCall r') :=
  h.through PyCore.asCall PyCore.asCall rfl rfl fun hr => by
    cases hr.sim with
    | normal q => exact .of_rel ⟨rfl, q⟩
    | _ => exact .of_rel hr

theorem Runs.Rel.afterBody {r r' : Res Flow} (h : K.Rel Q r r') {e e' : St → Res Flow} {hd hd' : String → St → Res Flow}
    (he : ∀ s s', Q s s' → K.Rel Q (e s) (e' s')) (hh : ∀ x s s', Q s s' → K.Rel Q (hd x s) (hd' x s')) :
    K.Rel Q (PyCore.afterBody r e hd) (PyCore.afterBody r' e' hd') :=
  h.through (PyCore.afterBody · e hd) (PyCore.afterBody · e' hd') rfl rfl fun hr => by
    cases hr.sim with
    | normal q => exact he _ _ q
    | raised q => exact hh _ _ _ q
    | _ => exact .of_rel hr

theorem Runs.Rel.withFinally {r r' : Res Flow} (h : K.Rel Q r r') {f f' : St → Res Flow}
    (hf : ∀ s s', Q s s' → K.Rel Q (f s) (f' s')) : K.Rel Q (PyCore.withFinally r f) (PyCore.withFinally r' f') :=
  h.through (PyCore.withFinally · f) (PyCore.withFinally · f') rfl rfl fun hr => by
    have key : ∀ s1 s1', Q s1 s1' → K.Rel Q ((f s1).andThen (resume r)) ((f' s1').andThen (resume r')) :=
      fun s1 s1' q => (hf s1 s1' q).andThen (fun _ _ q => q) fun _ _ q2 => .of_rel (resume_rel r r' hr _ _ q2)
    rw [withFinally_eq, withFinally_eq]
    cases hr.sim with
    | stuck => exact .of_rel trivial
    | timeout => exact .of_rel trivial
    | _ q => exact key _ _ q

theorem Runs.Rel.ite {c : Bool} {a a' b b' : Res Flow} (ha : K.Rel Q a a') (hb : K.Rel Q b b') :
    K.Rel Q (if c then a else b) (if c then a' else b') := by
  cases c <;> assumption

theorem valThen_rel {r r' : Option (Except String Val)} (hr : ValOK K.bad r r') {s s' : St} (h : Q s s')
    {k k' : Val → Res Flow} (hk : ∀ v, K.Rel Q (k v) (k' v)) : K.Rel Q (valThen r s k) (valThen r' s' k') := by
  rcases hr with ⟨h0, hb⟩ | h0
  · left; rw [h0]; exact hb
  · rw [h0]
    cases r with
    | none => exact .of_rel trivial
    | some x =>
      cases x with
      | error x => exact .of_rel ⟨rfl, h⟩
      | ok v => exact hk v

theorem tick_rel (n : Nat) {k k' : Nat → Res Flow} (hk : ∀ f, f < n → K.Rel Q (k f) (k' (f + K.d))) :
    K.Rel Q (tick n k) (tick (n + K.d) k') := by
  cases n with
  | zero =>
    rcases K.extra with h | h
    · rw [h]; exact .of_rel trivial
    · exact Or.inl h
  | succ f => rw [Nat.add_right_comm]; exact hk f (Nat.lt_succ_self f)

end

/-! On `ResRel` itself, through `Runs.eq false [] []`: these constructs look at neither table nor flag, and `Runs.eq` excuses
nothing (`Runs.rel_eq`). -/

theorem ResRel.andThen {Q Q' : St → St → Prop} (hq : ∀ s s', Q s s' → Q' s s') {r r' : Res Flow} (h : ResRel Q r r')
    {k k' : St → Res Flow} (hk : ∀ s s', Q s s' → ResRel Q' (k s) (k' s')) : ResRel Q' (r.andThen k) (r'.andThen k') :=
  Runs.rel_eq.mp ((Runs.Rel.of_rel (K := .eq false [] []) h).andThen hq fun s s' q => .of_rel (hk s s' q))

theorem asCall_rel {Q : St → St → Prop} (r r' : Res Flow) (h : ResRel Q r r') : ResRel Q (asCall r) (asCall r') :=
  Runs.rel_eq.mp (Runs.Rel.of_rel (K := .eq false [] []) h).asCall

theorem evalThen_sim {Q : St → St → Prop} {s s' : St} {e e' : Expr} {k k' : Val → Res Flow}
    (he : evalE s' e' = evalE s e) (h : Q s s') (hk : ∀ v, ResRel Q (k v) (k' v)) :
    ResRel Q (evalThen s e k) (evalThen s' e' k') :=
  Runs.rel_eq.mp (valThen_rel (K := .eq false [] []) (.of_eq he) h fun v => .of_rel (hk v))

theorem ResRel.ite {Q : St → St → Prop} {c : Prop} [Decidable c] {a a' b b' : Res Flow} (ha : ResRel Q a a')
    (hb : ResRel Q b b') : ResRel Q (if c then a else b) (if c then a' else b') := by
  split <;> assumption

def Sim1 (K : Runs) (Q : St → St → Prop) (N : Nat) (st st' : Stmt) : Prop :=
  ∀ n, n ≤ N → ∀ s s', Q s s' → K.Rel Q (exec1 ⟨K.ft, K.o⟩ n s st) (exec1 ⟨K.ft', K.o⟩ (n + K.d) s' st')

def SimL (K : Runs) (Q : St → St → Prop) (N : Nat) (l l' : List Stmt) : Prop :=
  ∀ n, n ≤ N → ∀ s s', Q s s' → K.Rel Q (execL ⟨K.ft, K.o⟩ n s l) (execL ⟨K.ft', K.o⟩ (n + K.d) s' l')

def SimH (K : Runs) (Q : St → St → Prop) (N : Nat) (hs hs' : List Handler) : Prop :=
  ∀ n, n ≤ N → ∀ s s' x, Q s s' → K.Rel Q (execH ⟨K.ft, K.o⟩ n s x hs) (execH ⟨K.ft', K.o⟩ (n + K.d) s' x hs')

section
variable {K : Runs} {Q : St → St → Prop} {N : Nat}

theorem SimL.nil : SimL K Q N [] [] := fun n _ s s' h => by rw [execL_nil, execL_nil]; exact .of_rel h

theorem SimL.cons {st st' : Stmt} {l l' : List Stmt} (h1 : Sim1 K Q N st st') (hl : SimL K Q N l l') :
    SimL K Q N (st :: l) (st' :: l') := fun n hn s s' h => by
  rw [execL_cons, execL_cons]; exact (h1 n hn s s' h).andThen (fun _ _ q => q) (hl n hn)

theorem SimL.map {f : Stmt → Stmt} : ∀ {l : List Stmt}, (∀ st, st ∈ l → Sim1 K Q N st (f st)) → SimL K Q N l (l.map f)
  | [], _ => .nil
  | st :: _, h => .cons (h st (List.mem_cons_self ..)) (SimL.map fun st' hm => h st' (List.mem_cons_of_mem _ hm))

theorem SimH.nil : SimH K Q N [] [] := fun n _ s s' x h => by rw [execH_nil, execH_nil]; exact .of_rel ⟨rfl, h⟩

theorem SimH.cons {ty ty' : Option Expr} {nm : Option String} {b b' : List Stmt} {r r' : List Handler}
    (hty : excKind ty' = excKind ty) (hb : SimL K Q N b b') (hr : SimH K Q N r r') :
    SimH K Q N (.mk ty nm b :: r) (.mk ty' nm b' :: r') := fun n hn s s' x h => by
  rw [execH_cons, execH_cons, hty]
  cases catches (excKind ty) nm x with
  | none => exact .of_rel trivial
  | some c =>
    cases c with
    | false => exact hr n hn s s' x h
    | true => exact hb n hn s s' h

theorem Sim1.if_ {c c' : Expr} {b b' e e' : List Stmt} (hc : ∀ s s', Q s s' → ValOK K.bad (condE K.o s c) (condE K.o s' c'))
    (hb : SimL K Q N b b') (he : SimL K Q N e e') : Sim1 K Q N (.if_ c b e) (.if_ c' b' e') := fun n hn s s' h => by
  rw [exec1_if, exec1_if]; exact valThen_rel (hc s s' h) h fun _ => .ite (hb n hn s s' h) (he n hn s s' h)

theorem Sim1.try_ {b b' e e' f f' : List Stmt} {hs hs' : List Handler} (hb : SimL K Q N b b') (hh : SimH K Q N hs hs')
    (he : SimL K Q N e e') (hf : SimL K Q N f f') :
    Sim1 K Q N (.try_ false b hs e f) (.try_ false b' hs' e' f') := fun n hn s s' h => by
  rw [exec1_try, exec1_try]
  exact ((hb n hn s s' h).afterBody (he n hn) (fun x s1 s1' h1 => hh n hn s1 s1' x h1)).withFinally (hf n hn)

/-- each round of a loop costs one unit of fuel: the next round is covered by the induction on fuel -/
theorem Sim1.while_ {c c' : Expr} {b b' e e' : List Stmt} (hc : ∀ s s', Q s s' → ValOK K.bad (evalE s c) (evalE s' c'))
    (hb : SimL K Q N b b') (he : SimL K Q N e e') : Sim1 K Q N (.while_ c b e) (.while_ c' b' e') := by
  intro n
  induction n using Nat.strongRecOn with
  | _ n ih =>
    intro hn s s' h
    rw [exec1_while, exec1_while]
    refine valThen_rel (hc s s' h) h fun _ => .ite (tick_rel n fun f hf => ?_) (he n hn s s' h)
    have hb' := hb (f + 1) (Nat.le_trans hf hn) s s' h
    rw [Nat.add_right_comm] at hb'
    exact hb'.loopStep (ih f hf (Nat.le_trans (Nat.le_of_lt hf) hn))

theorem execFor_sim {x x' : String} {b b' e e' : List Stmt} (hx : ∀ s s' v, Q s s' → Q (s.assign x v) (s'.assign x' v))
    (hb : SimL K Q N b b') (he : SimL K Q N e e') :
    ∀ n, n ≤ N → ∀ (s s' : St) (i k : Int), Q s s' →
      K.Rel Q (execFor ⟨K.ft, K.o⟩ n s x i k b e) (execFor ⟨K.ft', K.o⟩ (n + K.d) s' x' i k b' e') := by
  intro n
  induction n using Nat.strongRecOn with
  | _ n ih =>
    intro hn s s' i k h
    rw [execFor_eq, execFor_eq]
    split
    · refine tick_rel n fun f hf => ?_
      have hb' := hb (f + 1) (Nat.le_trans hf hn) _ _ (hx s s' (.int i) h)
      rw [Nat.add_right_comm] at hb'
      exact hb'.loopStep fun s1 s1' h1 => ih f hf (Nat.le_trans (Nat.le_of_lt hf) hn) s1 s1' (i + 1) k h1
    · exact he n hn s s' h

structure ForOK (K : Runs) (Q : St → St → Prop) (ν : String → String) (τ : Expr → Expr) (tg it tg' it' : Expr) : Prop where
  hdr : forRange tg' it' = (forRange tg it).map (fun p => (ν p.1, τ p.2))
  step : ∀ x bnd, forRange tg it = some (x, bnd) →
    (∀ s s', Q s s' → ValOK K.bad (evalE s bnd) (evalE s' (τ bnd))) ∧ ∀ s s' v, Q s s' → Q (s.assign x v) (s'.assign (ν x) v)

theorem Sim1.for_ {ν : String → String} {τ : Expr → Expr} {tg tg' it it' : Expr} {b b' e e' : List Stmt}
    (hr : ForOK K Q ν τ tg it tg' it')
    (hb : SimL K Q N b b') (he : SimL K Q N e e') :
    Sim1 K Q N (.for_ false tg it b e) (.for_ false tg' it' b' e') := fun n hn s s' h => by
  rw [exec1_for, exec1_for, hr.hdr]
  cases hf : forRange tg it with
  | none => exact .of_rel trivial
  | some p =>
    obtain ⟨hv, hx⟩ := hr.step p.1 p.2 hf
    refine valThen_rel (hv s s' h) h fun v => ?_
    cases v.asInt with
    | none => exact .of_rel trivial
    | some k => exact execFor_sim hx hb he n hn s s' 0 k h

theorem callRet_rel {Qc : St → St → Prop} {s s' : St} {tgt tgt' : Option String} {r r' : Res Flow} (h : K.Rel Qc r r')
    (hback : ∀ s1 s1', Qc s1 s1' → Q (s.leave s1) (s'.leave s1'))
    (htgt : ∀ t t' v, Q t t' → Q (t.store tgt v) (t'.store tgt' v)) :
    K.Rel Q (callRet s tgt r) (callRet s' tgt' r') :=
  h.through (callRet s tgt) (callRet s' tgt') rfl rfl fun hr => by
    cases hr.sim with
    | returned q => exact .of_rel (htgt _ _ _ (hback _ _ q))
    | raised q => exact .of_rel ⟨rfl, hback _ _ q⟩
    | _ => exact .of_rel trivial

/-- `Qc` relates the states inside the two callees, `Q` those of the callers, which by `hback` and `htgt` are related again
    once they have taken over the callees' globals, output and import events, and after storing the result. -/
theorem callFn_rel {Qc : St → St → Prop} {n : Nat} {s s' : St} {f : String} {args args' : List Expr}
    {tgt tgt' : Option String} (h : Q s s') (hargs : ValOK K.bad (evalArgs s args) (evalArgs s' args'))
    (new : K.ft.lookup f = none → K.bad .stuck ∨ K.ft'.lookup f = none)
    (tab : ∀ ps b, K.ft.lookup f = some (ps, b) →
      ∃ b', K.ft'.lookup f = some (ps, b') ∧
        ((bindTop b = none ∧ K.bad .stuck) ∨ (bindTop b').isSome = (bindTop b).isSome) ∧
        ∀ k bound bound' vs, k < n → bindTop b = some bound → bindTop b' = some bound' →
          evalArgs s args = some (.ok vs) → ps.length = vs.length →
          K.Rel Qc (asCall (execL ⟨K.ft, K.o⟩ k (s.enter ps vs b bound) b))
            (asCall (execL ⟨K.ft', K.o⟩ (k + K.d) (s'.enter ps vs b' bound') b')))
    (hback : ∀ s1 s1', Qc s1 s1' → Q (s.leave s1) (s'.leave s1'))
    (htgt : ∀ t t' v, Q t t' → Q (t.store tgt v) (t'.store tgt' v)) :
    K.Rel Q (callFn ⟨K.ft, K.o⟩ n s f args tgt) (callFn ⟨K.ft', K.o⟩ (n + K.d) s' f args' tgt') := by
  rw [callFn_eq, callFn_eq]
  rcases hargs with ⟨ha, hs⟩ | ha
  · rw [ha]; exact Or.inl hs
  rw [ha]
  cases hev : evalArgs s args with
  | none => exact .of_rel trivial
  | some r =>
  cases r with
  | error x => exact .of_rel ⟨rfl, h⟩
  | ok vs =>
  simp only
  cases hl : K.ft.lookup f with
  | none =>
    rcases new hl with hb | hb
    · exact Or.inl hb
    · rw [hb]; exact .of_rel trivial
  | some pb =>
    obtain ⟨ps, b⟩ := pb
    obtain ⟨b', hl', hsome, hbody⟩ := tab ps b hl
    rw [hl']
    simp only [callBody]
    rcases hsome with ⟨hn0, hs⟩ | hsome
    · rw [hn0]; exact Or.inl hs
    cases hb : bindTop b <;> cases hb' : bindTop b' <;> rw [hb, hb'] at hsome
    · exact .of_rel trivial
    · cases hsome
    · cases hsome
    · simp only
      split
      · exact .of_rel ⟨rfl, h⟩
      · next hlen =>
        exact tick_rel n fun k hk =>
          callRet_rel (hbody k _ _ vs hk hb hb' hev (by simpa using hlen)) hback htgt

theorem Sim1.flat {st st' : Stmt} (hst : isBlockStmt st = false) (hst' : isBlockStmt st' = false)
    (ha : isAssertStmt st' = isAssertStmt st)
    (hc : match callOf st with
      | none => callOf st' = none ∧ ∀ s s', Q s s' → K.Rel Q (simpleExec s st) (simpleExec s' st')
      | some (f, args, tgt) => ∃ args' tgt', callOf st' = some (f, args', tgt') ∧
          ∀ n, n ≤ N → ∀ s s', Q s s' →
            K.Rel Q (callFn ⟨K.ft, K.o⟩ n s f args tgt) (callFn ⟨K.ft', K.o⟩ (n + K.d) s' f args' tgt')) :
    Sim1 K Q N st st' := fun n hn s s' h => by
  rw [exec1_flat _ _ _ _ hst, exec1_flat _ _ _ _ hst']
  unfold flatExec
  rw [ha]
  refine .ite (.of_rel h) ?_
  cases hcl : callOf st with
  | none => rw [hcl] at hc; rw [hc.1]; exact hc.2 s s' h
  | some p =>
    obtain ⟨f, args, tgt⟩ := p
    rw [hcl] at hc
    obtain ⟨args', tgt', h', hfn⟩ := hc
    rw [h']
    exact hfn n hn s s' h

end

/-! `Q = Same`: the two runs differ in the program text or the fuel only. -/

def SimC (K : Runs) (N : Nat) : Prop :=
  ∀ n, n ≤ N → ∀ s f args args' tgt, ValOK K.bad (evalArgs s args) (evalArgs s args') →
    K.Rel Same (callFn ⟨K.ft, K.o⟩ n s f args tgt) (callFn ⟨K.ft', K.o⟩ (n + K.d) s f args' tgt)

section
variable {K : Runs} {N : Nat}

theorem same_assign (x : String) (s s' : St) (v : Val) (h : Same s s') : Same (s.assign x v) (s'.assign x v) := by
  rw [h]; rfl

theorem ValOK.same {α : Type} {bad : Res Flow → Prop} {f : St → Option (Except String α)} (s s' : St) (h : Same s s') :
    ValOK bad (f s) (f s') := by
  rw [h]; exact .of_eq rfl

theorem Sim1.flatSame {st st' : Stmt} (hst : isBlockStmt st = false) (hst' : isBlockStmt st' = false)
    (ha : isAssertStmt st' = isAssertStmt st)
    (hc : match callOf st with
      | none => callOf st' = none ∧ ∀ s, K.Rel Same (simpleExec s st) (simpleExec s st')
      | some (f, args, tgt) => ∃ args', callOf st' = some (f, args', tgt) ∧
          ∀ s, ValOK K.bad (evalArgs s args) (evalArgs s args'))
    (hC : SimC K N) : Sim1 K Same N st st' := by
  refine .flat hst hst' ha ?_
  cases hcl : callOf st with
  | none => rw [hcl] at hc; exact ⟨hc.1, fun s s' q => by rw [q]; exact hc.2 s⟩
  | some p =>
    rw [hcl] at hc
    obtain ⟨args', h', hargs⟩ := hc
    exact ⟨args', p.2.2, h', fun n hn s s' q => by rw [q]; exact hC n hn s p.1 p.2.1 args' p.2.2 (hargs s)⟩

theorem Sim1.same {st : Stmt} (hst : isBlockStmt st = false) (hC : SimC K N) : Sim1 K Same N st st := by
  refine .flatSame hst hst rfl ?_ hC
  cases callOf st with
  | none => exact ⟨rfl, fun _ => .same⟩
  | some p => exact ⟨_, rfl, fun _ => .of_eq rfl⟩

theorem ForOK.same (tg it : Expr) : ForOK K Same id id tg it tg it :=
  ⟨by cases forRange tg it <;> rfl, fun x _ _ => ⟨ValOK.same, same_assign x⟩⟩

theorem Sim.refl (hC : SimC K N) :
    BlockInd (fun st => Sim1 K Same N st st) (fun l => SimL K Same N l l) (fun hs => SimH K Same N hs hs) where
  flat _ hst := .same hst hC
  if_ _ _ _ hb he := .if_ ValOK.same hb he
  while_ _ _ _ hb he := .while_ ValOK.same hb he
  for_ tg it _ _ hb he := .for_ (.same tg it) hb he
  try_ _ _ _ _ hb hh he hf := .try_ hb hh he hf
  nil := .nil
  cons _ _ := .cons
  hnil := .nil
  hcons _ _ _ _ := .cons rfl

def SimTree (K : Runs) (N : Nat) (φ1 : Stmt → Stmt) (φL : List Stmt → List Stmt) (φH : List Handler → List Handler) : Prop :=
  (∀ st, Sim1 K Same N st (φ1 st)) ∧ (∀ l, SimL K Same N l (φL l)) ∧ (∀ hs, SimH K Same N hs (φH hs))

section
variable {φ1 : Stmt → Stmt} {φL : List Stmt → List Stmt} {φH : List Handler → List Handler} (h : SimTree K N φ1 φL φH) (s : St)
include h

theorem SimTree.stmt (st : Stmt) :
    K.bad (exec1 ⟨K.ft, K.o⟩ N s st) ∨ exec1 ⟨K.ft', K.o⟩ (N + K.d) s (φ1 st) = exec1 ⟨K.ft, K.o⟩ N s st :=
  Runs.rel_same.mp (h.1 st N (Nat.le_refl N) s s rfl)

theorem SimTree.list (l : List Stmt) :
    K.bad (execL ⟨K.ft, K.o⟩ N s l) ∨ execL ⟨K.ft', K.o⟩ (N + K.d) s (φL l) = execL ⟨K.ft, K.o⟩ N s l :=
  Runs.rel_same.mp (h.2.1 l N (Nat.le_refl N) s s rfl)

theorem SimTree.handlers (x : String) (hs : List Handler) :
    K.bad (execH ⟨K.ft, K.o⟩ N s x hs) ∨ execH ⟨K.ft', K.o⟩ (N + K.d) s x (φH hs) = execH ⟨K.ft, K.o⟩ N s x hs :=
  Runs.rel_same.mp (h.2.2 hs N (Nat.le_refl N) s s x rfl)

end

/-- The fuel induction and the call step, once for all tree maps.  `step`: images agree with their originals wherever calls
    agree (an instance shows it by `BlockInd` and the congruences); `tab`: every entry of `ft` has one in `ft'` that behaves, as
    a call, like the image of its body; `new`: `ft'` has no other entries, unless `stuck` excuses. -/
theorem SimTree.all {φ1 : Stmt → Stmt} {φL : List Stmt → List Stmt} {φH : List Handler → List Handler}
    (step : ∀ N, SimC K N → SimTree K N φ1 φL φH)
    (new : ∀ f, K.ft.lookup f = none → K.bad .stuck ∨ K.ft'.lookup f = none)
    (tab : ∀ f ps b, K.ft.lookup f = some (ps, b) →
      ∃ b', K.ft'.lookup f = some (ps, b') ∧ declaredGlobals b' = declaredGlobals b ∧
        ((bindTop b = none ∧ K.bad .stuck) ∨ (bindTop b').map canonNames = (bindTop b).map canonNames) ∧
        ∀ n s, asCall (execL ⟨K.ft', K.o⟩ n s b') = asCall (execL ⟨K.ft', K.o⟩ n s (φL b)))
    (N : Nat) : SimTree K N φ1 φL φH := by
  induction N using Nat.strongRecOn with
  | _ N ih =>
    refine step N fun n hn s f args args' tgt hargs => ?_
    refine callFn_rel (Qc := Same) rfl hargs (new f) (fun ps b hl => ?_) (fun s1 s1' q => by rw [q]; rfl)
      (fun t t' v q => by rw [q]; rfl)
    obtain ⟨b', hl', hg, hbt, hbody⟩ := tab f ps b hl
    refine ⟨b', hl', hbt.imp_right (fun h => by rw [← Option.isSome_map (f := canonNames), h, Option.isSome_map]), ?_⟩
    intro k bound bound' vs hk hb hb' _ _
    rcases hbt with ⟨h0, _⟩ | hbt
    · cases hb.symm.trans h0
    · rw [hb, hb'] at hbt
      simp only [Option.map_some, Option.some.injEq] at hbt
      have := ((ih k (Nat.lt_of_lt_of_le hk hn)).2.1 b k (Nat.le_refl k) (s.enter ps vs b bound) _ rfl).asCall
      unfold St.enter at this ⊢
      rw [hbody, hg, hbt]
      exact this

theorem Sim.refl_all (hK : K.ft' = K.ft) (N : Nat) : SimTree K N id id id :=
  SimTree.all (fun _ hC => (Sim.refl hC).all) (fun _ hl => Or.inr (hK ▸ hl))
    (fun _ _ b hl => ⟨b, hK ▸ hl, rfl, Or.inr rfl, fun _ _ => rfl⟩) N

end

section
variable {o : Bool}

def Mono (o : Bool) (ft : FTab) (n : Nat) : Prop :=
  (∀ s st, exec1 ⟨ft, o⟩ n s st ≠ .timeout → exec1 ⟨ft, o⟩ (n + 1) s st = exec1 ⟨ft, o⟩ n s st) ∧
  (∀ s l, execL ⟨ft, o⟩ n s l ≠ .timeout → execL ⟨ft, o⟩ (n + 1) s l = execL ⟨ft, o⟩ n s l)

theorem execL_more_fuel (ft : FTab) (n k : Nat) (s : St) (l : List Stmt) (h : execL ⟨ft, o⟩ n s l ≠ .timeout) :
    execL ⟨ft, o⟩ (n + k) s l = execL ⟨ft, o⟩ n s l :=
  ((Sim.refl_all (K := Runs.more o ft k) rfl n).list s l).resolve_left h

theorem execH_mono (ft : FTab) (n : Nat) (ih : ∀ m, m < n → Mono o ft m) :
    (hs : List Handler) → (s : St) → (x : String) → execH ⟨ft, o⟩ n s x hs ≠ .timeout → execH ⟨ft, o⟩ (n + 1) s x hs = execH ⟨ft, o⟩ n s x hs :=
  fun hs s x h => ((Sim.refl_all (K := Runs.more o ft 1) rfl n).handlers s x hs).resolve_left h

/-- T01.9: a run that does not end in `timeout` is the same at every larger fuel -/
theorem run_more_fuel (n k : Nat) (m : Module) (h : (run n m).ending ≠ "timeout") : run (n + k) m = run n m := by
  unfold run at *
  have hne : execL ⟨collect m.body, false⟩ n St.init m.body ≠ .timeout := by
    intro ht
    rw [ht] at h
    exact h rfl
  rw [execL_more_fuel (o := false) _ n k _ _ hne]

end

end PMV.PyCore
