import PMV.Model.Shebang
import PMV.Spec.Lines
namespace PMV.Shebang
open PMV.Spec.Lines

theorem findShebang_eq_firstLine (rest : List Nat) : findShebang (35 :: 33 :: rest) = some (firstLine (35 :: 33 :: rest)) := by
  simp [findShebang, firstLine, Spec.Lines.isLineEnd, Shebang.isLineEnd]

theorem firstLine_no_lineEnd (l : List Nat) : ∀ c ∈ firstLine l, Spec.Lines.isLineEnd c = false :=
  fun c hc => by simpa using List.all_eq_true.mp List.all_takeWhile c hc

theorem firstLine_append_lf (a b : List Nat) (h : ∀ c ∈ a, Spec.Lines.isLineEnd c = false) : firstLine (a ++ 10 :: b) = a := by
  unfold firstLine
  rw [List.takeWhile_append_of_pos (by simpa using h), List.takeWhile_cons_of_neg (by decide), List.append_nil]

end PMV.Shebang
