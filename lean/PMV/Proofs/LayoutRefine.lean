import PMV.Proofs.LayoutMachine
namespace PMV.Spec.Layout
open PMV PMV.Token PMV.Printer

section
variable (t : PrecTable) (st : StmtTable)

/-- a statement that is not an `if`: only the plain printing exists -/
theorem claimS_of_noif (s0 : Stmt) (hnot : isIfStmt s0 = false)
    (H : (∀ d, EndsT (emitS t st false d s0)) ∧ ∀ s : L0, eff (stmtToks t st s0) s =
      ⟨pendS s.indent (isCompoundSyn s0) :: ((emitS t st false s.indent s0).reverse ++ commit s.acc (isCompoundSyn s0) s.indent),
        s.indent⟩) : ClaimS t st s0 := by
  intro el hel
  obtain rfl : el = false := Bool.eq_false_iff.mpr fun h => Bool.false_ne_true (hnot.symm.trans (hel h))
  exact H

theorem claimS_simple {s0 : Stmt} (h : okS t st s0 = true) (hc : isCompoundSyn s0 = false) : ClaimS t st s0 := by
  obtain ⟨hn, hne⟩ := (okS_simple hc).mp h
  have hE : EndsT (T (simpleToks t st s0)) := EndsT_T hne
  refine claimS_of_noif t st s0 (Bool.eq_false_iff.mpr fun hif => Bool.false_ne_true (hc.symm.trans (isIf_compound s0 hif)))
    ⟨fun d => by rw [emitS_simple t st s0 hc]; exact hE, fun s => ?_⟩
  rw [stmtToks_simple t st s0 hc, eff_append, eff_nlay _ hn, emitS_simple t st s0 hc, hc, commit_false]
  exact endStmt_on hE s.acc s.indent

/-- `def`, `class`, `with`: `newline`, a line per decorator, the clause -/
theorem decorated_eff (decs : List Expr) (hd : decs.all (fun dec => nlay (tExpr t dec)) = true)
    (body : List Stmt) (hB : ClaimSuite t st body) (hdr : List Tok) (hn : nlay hdr = true) (hne : hdr ≠ []) :
    (∀ d, EndsT (decoLines t d decs ++ clause t st d hdr body)) ∧
    ∀ s : L0, eff (.newline :: (decoratorToks t decs ++ (hdr ++ suiteWrap (body.any (isCompound st)) (bodyToks t st body)))) s =
      ⟨.nl s.indent :: ((decoLines t s.indent decs ++ clause t st s.indent hdr body).reverse ++ commit s.acc true s.indent), s.indent⟩ := by
  refine ⟨fun d => EndsT.append_left _ (hB [] d _ hn hne).2, fun ⟨acc, d⟩ => ?_⟩
  rw [eff_cons, l0step_newline, eff_append, deco_eff t decs hd, (hB _ d _ hn hne).1]
  simp

/-- any other compound statement: `newline`, the first clause, then further clauses -/
theorem compound_eff (body : List Stmt) (hB : ClaimSuite t st body) (hdr : List Tok) (hn : nlay hdr = true)
    (hne : hdr ≠ []) (rest : List Tok) (g : Nat → List LT) (hF : Follows rest g) :
    (∀ d, EndsT (clause t st d hdr body ++ g d)) ∧
    ∀ s : L0, eff (.newline :: ((hdr ++ suiteWrap (body.any (isCompound st)) (bodyToks t st body)) ++ rest)) s =
      ⟨.nl s.indent :: ((clause t st s.indent hdr body ++ g s.indent).reverse ++ commit s.acc true s.indent), s.indent⟩ := by
  refine ⟨fun d => (hF _ [] d (hB [] d _ hn hne).2).2, fun ⟨acc, d⟩ => ?_⟩
  obtain ⟨e1, e2⟩ := hB (commit acc true d) d hdr hn hne
  rw [eff_cons, l0step_newline, eff_append, e1]
  exact (hF _ _ d e2).1

theorem claimS_match (hmc : st.compound.contains "match_case" = true) (subj : Expr) (cases : List MatchCase)
    (hn : nlay (tExpr t subj) = true) (hC : ClaimC t st cases) : ClaimS t st (.match_ subj cases) := by
  apply claimS_of_noif t st _ rfl
  have hN := nlay_kw_colon "match" hn
  have hE0 : EndsT (T (.kw "match" :: tExpr t subj ++ [.delim ":"])) := EndsT_T (by simp)
  have heff : ∀ acc d, eff (stmtToks t st (.match_ subj cases)) ⟨acc, d⟩ = leaveSuite (eff (casesToks t st cases)
      ⟨.nl (d + 1) :: ((T (.kw "match" :: tExpr t subj ++ [.delim ":"])).reverse ++ commit acc true d), d + 1⟩) := by
    intro acc d
    rw [stmtToks_match t st hmc, eff_cons, l0step_newline, eff_append, eff_nlay _ hN, eff_suiteWrap, if_pos rfl,
      newline_on hE0 _ (d + 1)]
  cases cases with
  | nil =>
    refine ⟨fun d => by simpa [emitS] using hE0, fun s => ?_⟩
    rw [heff, casesToks, eff_nil]
    simpa [emitS, leaveSuite, pendS, isCompoundSyn] using newline_after hE0 (.nl (s.indent + 1)) rfl (commit s.acc true s.indent) s.indent
  | cons c cs =>
    have hEc : ∀ e, EndsT (emitCases t st e (c :: cs)) := fun e => (hC (by simp) [] e).2
    refine ⟨fun d => by simpa [emitS] using EndsT.append_left _ (EndsT.cons _ (hEc (d + 1))), fun s => ?_⟩
    rw [heff, (hC (by simp) _ _).1]
    simp only [leaveSuite, Nat.add_sub_cancel]
    rw [newline_after (hEc _) (.nl (s.indent + 1)) rfl]
    simp [emitS, pendS, isCompoundSyn]

end

mutual
theorem stmt_lay (t : PrecTable) (st : StmtTable) (hT : TableOK st) : (s0 : Stmt) → okS t st s0 = true → ClaimS t st s0
  | .functionDef a n args body decs r tps => fun h => by
    simp only [okS, Bool.and_eq_true] at h
    apply claimS_of_noif t st _ rfl
    rw [stmtToks_functionDef]; simp only [emitS_functionDef]
    exact decorated_eff t st decs h.1.1 body (body_lay t st hT body h.2).suite _ h.1.2
      (ne_nil_of_getLast? (hdrDef_colon _ _ _ _ _ _))
  | .classDef n bases kws body decs tps => fun h => by
    simp only [okS, Bool.and_eq_true] at h
    apply claimS_of_noif t st _ rfl
    rw [stmtToks_classDef]; simp only [emitS_classDef]
    exact decorated_eff t st decs h.1.1 body (body_lay t st hT body h.2).suite _ h.1.2
      (ne_nil_of_getLast? (hdrClass_colon _ _ _ _ _))
  | .for_ a tg it body orelse => fun h => by
    simp only [okS, Bool.and_eq_true] at h
    apply claimS_of_noif t st _ rfl
    rw [stmtToks_for]; simp only [emitS_for]
    exact compound_eff t st body (body_lay t st hT body h.1.2).suite _ h.1.1
      (ne_nil_of_getLast? (hdrFor_colon _ _ _ _)) _ _
      (opt_clause t st "else" true orelse (body_lay t st hT orelse h.2).suite)
  | .while_ c body orelse => fun h => by
    simp only [okS, Bool.and_eq_true] at h
    apply claimS_of_noif t st _ rfl
    rw [stmtToks_while]; simp only [emitS_while]
    exact compound_eff t st body (body_lay t st hT body h.1.2).suite _ (nlay_kw_colon _ h.1.1) (by simp) _ _
      (opt_clause t st "else" false orelse (body_lay t st hT orelse h.2).suite)
  | .if_ c body orelse => fun h => by
    simp only [okS, Bool.and_eq_true] at h
    intro el _
    rw [stmtToks_if]; simp only [emitS_if]
    exact compound_eff t st body (body_lay t st hT body h.1.2).suite _ (nlay_kw_colon _ h.1.1) (by simp) _ _
      (else_part t st orelse (body_lay t st hT orelse h.2))
  | .with_ a items body => fun h => by
    simp only [okS, Bool.and_eq_true] at h
    apply claimS_of_noif t st _ rfl
    rw [stmtToks_with]; simp only [emitS_with]
    exact decorated_eff t st [] rfl body (body_lay t st hT body h.2).suite _ h.1
      (ne_nil_of_getLast? (hdrWith_colon _ _ _))
  | .match_ subj cases => fun h => by
    simp only [okS, Bool.and_eq_true] at h
    exact claimS_match t st hT.2 subj cases h.1 (cases_lay t st hT cases h.2)
  | .try_ star body hs orelse fin => fun h => by
    simp only [okS, Bool.and_eq_true] at h
    apply claimS_of_noif t st _ rfl
    rw [stmtToks_try]; simp only [emitS_try]
    exact compound_eff t st body (body_lay t st hT body h.1.1.1).suite _ rfl (by simp) _ _
      ((Follows.append (handlers_lay t st hT star hs h.1.1.2)
        (opt_clause t st "else" false orelse (body_lay t st hT orelse h.1.2).suite)).append
        (opt_clause t st "finally" false fin (body_lay t st hT fin h.2).suite))
  | .return_ _ | .delete _ | .assign _ _ | .typeAlias _ _ _ | .augAssign _ _ _ | .annAssign _ _ _ _ | .raise_ _ _ | .assert_ _ _
  | .import_ _ | .importFrom _ _ _ | .global _ | .nonlocal _ | .expr _ | .pass | .break_ | .continue_ =>
    fun h => claimS_simple t st h rfl
theorem body_lay (t : PrecTable) (st : StmtTable) (hT : TableOK st) : (l : List Stmt) → okL t st l = true → ClaimLS t st l
  | [] => fun _ => .of t st hT.1 (claimL_nil t st) nofun
  | s :: ss => fun h => by
    simp only [okL, Bool.and_eq_true] at h
    have hS := stmt_lay t st hT s h.1
    have hL := body_lay t st hT ss h.2
    exact .of t st hT.1 (claimL_cons t st s ss hS hL.block) (List.forall_mem_cons.mpr ⟨hS, hL.each⟩)
theorem handlers_lay (t : PrecTable) (st : StmtTable) (hT : TableOK st) (star : Bool) : (hs : List Handler) → okH t st star hs = true → ClaimH t st star hs
  | [] => fun _ => by simp only [ClaimH, handlersToks, emitHandlers]; exact Follows.nil
  | .mk ty name body :: hs => fun h => by
    simp only [okH, Bool.and_eq_true] at h
    simp only [ClaimH, handlersToks_cons, emitHandlers_cons]
    exact (clause_step t st body (body_lay t st hT body h.1.2).suite _ h.1.1 (ne_nil_of_getLast? (hdrExcept_colon t star ty name))).append
      (handlers_lay t st hT star hs h.2)
theorem cases_lay (t : PrecTable) (st : StmtTable) (hT : TableOK st) : (cs : List MatchCase) → okC t st cs = true → ClaimC t st cs
  | [] => fun _ h => absurd rfl h
  | .mk pat guard body :: cs => fun h => by
    simp only [okC, Bool.and_eq_true] at h
    exact claimC_cons t st pat guard body cs h.1.1 (body_lay t st hT body h.1.2).suite (cases_lay t st hT cs h.2)
end

/-- what the layout machine has produced at the end of a module; the pending layout token goes, as `ModulePrinter.code`
    (`Token.render`) strips the text -/
def machineLayout (ts : List Tok) : List LT := ((eff ts ⟨[], 0⟩).acc.dropWhile LT.isLay).reverse

/-- T02.4 (layout machine = layout specification), for every module whose header and statement tokens are real tokens -/
theorem module_layout (t : PrecTable) (st : StmtTable) (hT : TableOK st) (m : Module) (hok : okL t st m.body = true) :
    machineLayout (moduleToks t st m) = emitModule t st m := by
  unfold machineLayout moduleToks emitModule
  by_cases hb : m.body = []
  · rw [hb]; rfl
  · have hL := (body_lay t st hT m.body hok).block
    rw [hL.2 ⟨[], 0⟩ hb, List.dropWhile_cons, if_pos (pendS_isLay _ _), strip_pending (hL.1 hb 0)]
    simp [commit]

theorem erase_dropWhile (acc : List LTok) : (acc.dropWhile LTok.isLay).map LTok.erase = (acc.map LTok.erase).dropWhile LT.isLay := by
  induction acc with
  | nil => rfl
  | cons x xs ih => cases x <;> simp [List.dropWhile_cons, LTok.isLay, LT.isLay, LTok.erase, ih]

def LSt.erase (ls : LSt) : L0 := ⟨ls.acc.map LTok.erase, ls.indent⟩

theorem erase_step (sp : Spacing) (ls : LSt) (tok : Tok) : (lstep sp ls tok).erase = l0step ls.erase tok := by
  have hnl : ∀ ls : LSt, (lnewline ls).erase = l0newline ls.erase := by
    intro ls
    unfold lnewline l0newline LSt.erase
    cases hacc : ls.acc with
    | nil => simp [hacc]
    | cons x xs => simp [erase_dropWhile, LTok.erase]
  cases tok with
  | newline => exact hnl ls
  | indentInc | indentDec => rfl
  | endStmt =>
    unfold lstep l0step LSt.erase
    by_cases h0 : (ls.indent == 0) = true
    · simp only [h0, if_true]; exact hnl ls
    · simp only [h0, Bool.false_eq_true, if_false]
      cases hacc : ls.acc with
      | nil => rfl
      | cons x xs => cases x <;> rfl
  | ident _ | kw _ | strLit _ | bytesLit _ | fstr _ | delim _ | op _ | num _ => rfl

theorem erase_run (sp : Spacing) (ts : List Tok) (ls : LSt) : (ts.foldl (lstep sp) ls).erase = eff ts ls.erase :=
  (List.foldl_hom LSt.erase fun ls tok => (erase_step sp ls tok).symm).symm

/-- T02.4 for the machine that also decides the spacing (`lstep`): forgetting those decisions turns it into `l0step` -/
theorem printed_layout (sp : Spacing) (t : PrecTable) (st : StmtTable) (hT : TableOK st) (m : Module) (hok : okL t st m.body = true) :
    (((lrun sp (moduleToks t st m)).acc.dropWhile LTok.isLay).map LTok.erase).reverse = emitModule t st m := by
  rw [erase_dropWhile, ← module_layout t st hT m hok]
  exact congrArg (fun s : L0 => (s.acc.dropWhile LT.isLay).reverse) (erase_run sp (moduleToks t st m) LSt.init)

end PMV.Spec.Layout
