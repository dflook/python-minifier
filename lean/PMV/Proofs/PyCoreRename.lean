import PMV.Proofs.PyCoreTrans
/-
  T01.13: renaming the local names of functions preserves the behaviour.  `Rel π P s s'`: same globals, output and import
  events, and the local `π x` of the renamed run holds what the local `x` holds in the original one; each callee is renamed
  with its own map.  Expressions and the statements without a block are treated here, the rest by the congruences of
  `PyCoreSim` (`sim_ren`).
-/
namespace PMV.PyCore
open PMV PMV.RenameAst

variable {o : Bool}

variable {π : Ren} {P : String → Bool} {s s' : St}

/-- on the names satisfying `P` only; `s'` may hold further locals -/
structure Rel (π : Ren) (P : String → Bool) (s s' : St) : Prop where
  globals : s'.globals = s.globals
  out : s'.out = s.out
  imports : s'.imports = s.imports
  mode : s'.locals.isSome = s.locals.isSome
  isLocal : ∀ x, P x = true → s'.isLocal (π x) = s.isLocal x
  lget : ∀ x, P x = true → s.isLocal x = true →
    (s'.locals.bind (fun l => l.get (π x))) = (s.locals.bind (fun l => l.get x))
  fixed : ∀ x, P x = true → s.isLocal x = false → π x = x
  inj : ∀ x y, P x = true → P y = true → π x = π y → x = y

theorem Rel.lookup {π : Ren} {P : String → Bool} {s s' : St} (h : Rel π P s s') (x : String) (hx : P x = true) :
    s'.lookup (π x) = s.lookup x := by
  unfold St.lookup
  rw [h.isLocal x hx]
  by_cases hl : s.isLocal x = true
  · simp only [hl, if_true]; exact h.lget x hx hl
  · have hl' : s.isLocal x = false := by simpa using hl
    simp only [hl', Bool.false_eq_true, if_false]
    rw [h.fixed x hx hl', h.globals]

theorem Rel.unbound {π : Ren} {P : String → Bool} {s s' : St} (h : Rel π P s s') (x : String) (hx : P x = true) :
    s'.unbound (π x) = s.unbound x := by
  unfold St.unbound
  rw [h.isLocal x hx]

def InjOn (π : Ren) (P : String → Bool) : Prop := ∀ x y, P x = true → P y = true → π x = π y → x = y

theorem InjOn.beq (hinj : InjOn π P) {x y : String} (hx : P x = true) (hy : P y = true) : (π y == π x) = (y == x) := by
  by_cases hxy : y = x
  · subst hxy; simp
  · rw [beq_eq_false_iff_ne.mpr fun hc => hxy (hinj y x hy hx hc), beq_eq_false_iff_ne.mpr hxy]

theorem Rel.assign {π : Ren} {P : String → Bool} {s s' : St} (h : Rel π P s s') (x : String) (hx : P x = true) (v : Val) :
    Rel π P (s.assign x v) (s'.assign (π x) v) := by
  have hloc := h.isLocal x hx
  exact
    { inj := h.inj
      globals := by
        -- a name that is not local keeps its spelling: the same global is set
        rw [globals_assign, globals_assign, hloc, h.globals]
        cases hl : s.isLocal x
        · rw [h.fixed x hx hl]
        · rfl
      out := by rw [out_assign, out_assign]; exact h.out
      imports := by rw [imports_assign, imports_assign]; exact h.imports
      mode := by rw [isSome_assign, isSome_assign]; exact h.mode
      isLocal := fun y hy => by rw [isLocal_assign, isLocal_assign]; exact h.isLocal y hy
      lget := fun y hy hly => by
        rw [isLocal_assign] at hly
        rw [lget_assign, lget_assign, hloc, InjOn.beq h.inj hx hy, h.lget y hy hly]
      fixed := fun y hy hly => by rw [isLocal_assign] at hly; exact h.fixed y hy hly }

theorem Rel.back (h : Rel π P s s') (g : Env) (out imps : List String) :
    Rel π P { s with globals := g, out := out, imports := imps } { s' with globals := g, out := out, imports := imps } :=
  ⟨rfl, rfl, rfl, h.mode, h.isLocal, h.lget, h.fixed, h.inj⟩

theorem Rel.withOut (h : Rel π P s s') (f : List String → List String)
    (g : List String → List String) :
    Rel π P { s with out := f s.out, imports := g s.imports } { s' with out := f s'.out, imports := g s'.imports } := by
  rw [h.globals, h.out, h.imports]
  exact h.back _ _ _

/-- the names the semantics gives a meaning to keep their spelling -/
structure Stat (π : Ren) (P : String → Bool) : Prop where
  resP : ∀ r, r ∈ reserved → P r = true
  resFix : ∀ r, r ∈ reserved → π r = r

theorem res_iff (hinj : InjOn π P) (hs : Stat π P) (r : String) (hr : r ∈ reserved)
    (x : String) (hx : P x = true) : (π x == r) = (x == r) := by
  have := hinj.beq (hs.resP r hr) hx
  rwa [hs.resFix r hr] at this

theorem debug_iff (hinj : InjOn π P) (hs : Stat π P) (x : String) (hx : P x = true) :
    (π x == "__debug__") = (x == "__debug__") := res_iff hinj hs _ (by simp [reserved]) x hx

theorem renE_trans (π : Ren) : ExprTrans (renE π) (renEs π) where
  head e := by cases e <;> rfl
  unaryOp _ _ := rfl
  binOp _ _ _ := rfl
  compare _ _ _ := rfl
  boolOp _ _ := rfl
  ifExp _ _ _ := rfl
  nil := rfl
  cons _ _ := rfl

theorem evalE_ren (h : Rel π P s s') (hs : Stat π P) (e : Expr) (hok : okE P e = true) :
    evalE s' (renE π e) = evalE s e :=
  evalE_trans (s := s) (s' := s') (renE_trans π) (fun c => by cases c <;> rfl)
    (fun x c hx => by simp only [renE, evalE, debug_iff h.inj hs x hx, h.lookup x hx, h.unbound x hx]) e hok

theorem evalArgs_ren (h : Rel π P s s') (hs : Stat π P) (args : List Expr)
    (hok : okEs P args = true) : evalArgs s' (renEs π args) = evalArgs s args :=
  evalArgs_trans (renE_trans π) (evalE_ren h hs) args hok

mutual
theorem renE_fixed (π : Ren) : (e : Expr) → (namesE e).all (fun x => π x == x) = true → renE π e = e
  | .name x c => fun h => by
    have : π x = x := eq_of_beq (okE_name (P := fun x => π x == x) h)
    simp [renE, this]
  | .unaryOp op v => fun h => by
    simp only [renE, renE_fixed π v (okE_unary (P := fun x => π x == x) h)]
  | .binOp l op r => fun h => by
    have hl := (okE_binOp (P := fun x => π x == x)).mp h
    simp only [renE, renE_fixed π l hl.1, renE_fixed π r hl.2]
  | .compare l ops cs => fun h => by
    have hl := okE_compare (P := fun x => π x == x) h
    simp only [renE, renE_fixed π l hl.1, renEs_fixed π cs hl.2]
  | .boolOp op vs => fun h => by
    simp only [renE, renEs_fixed π vs (okE_boolOp (P := fun x => π x == x) h)]
  | .ifExp c a b => fun h => by
    have hl := okE_ifExp (P := fun x => π x == x) h
    simp only [renE, renE_fixed π c hl.1, renE_fixed π a hl.2.1, renE_fixed π b hl.2.2]
  | .call f args kws => fun h => by
    have hl := okE_call (P := fun x => π x == x) h
    simp only [renE, renE_fixed π f hl.1, renEs_fixed π args hl.2]
  | .tuple es => fun h => by
    simp only [renE, renEs_fixed π es h]
  | .constant _ | .namedExpr .. | .lambda .. | .dict .. | .set _ | .listComp .. | .setComp .. | .dictComp .. | .generatorExp ..
  | .await .. | .yield .. | .yieldFrom .. | .joinedStr .. | .attribute .. | .subscript .. | .starred .. | .list .. | .slice ..
  | .paren .. => fun _ => rfl
theorem renEs_fixed (π : Ren) : (es : List Expr) → (namesEs es).all (fun x => π x == x) = true → renEs π es = es
  | [] => fun _ => rfl
  | e :: rest => fun h => by
    have hl := okEs_cons (P := fun x => π x == x) h
    simp only [renEs, renE_fixed π e hl.1, renEs_fixed π rest hl.2]
end

theorem renO_fixed (π : Ren) (e : Option Expr) (h : (namesO e).all (fun x => π x == x) = true) : renO π e = e := by
  cases e with
  | none => rfl
  | some e' => simp only [renO, renE_fixed π e' h]

def okS (π : Ren) (P : String → Bool) (st : Stmt) : Bool := (namesS st).all P && fixedS π st

def okL (π : Ren) (P : String → Bool) (l : List Stmt) : Bool := (namesL l).all P && fixedL π l

def okH (π : Ren) (P : String → Bool) (hs : List Handler) : Bool := (namesH hs).all P && fixedH π hs

theorem isConst_ren (π : Ren) (e : Expr) : isConst (renE π e) = isConst e := by
  cases e <;> rfl

theorem assignTarget_ren (π : Ren) (ts : List Expr) : assignTarget (renEs π ts) = (assignTarget ts).map π := by
  match ts with
  | [] => rfl
  | [e] => cases e <;> rfl
  | _ :: _ :: _ => simp [renEs, assignTarget]

theorem nameOf_ren (π : Ren) (e : Expr) : nameOf (renE π e) = (nameOf e).map (fun p => (π p.1, p.2)) := by
  cases e <;> rfl

theorem asNameCall_ren (π : Ren) (e : Expr) :
    asNameCall (renE π e) = (asNameCall e).map (fun p => (π p.1, p.2.1, renEs π p.2.2)) := by
  cases e with
  | call f args kws => rw [renE, asNameCall_call, asNameCall_call, nameOf_ren]; cases nameOf f <;> cases kws <;> rfl
  | _ => rfl

theorem raiseName_ren (π : Ren) (e c : Option Expr) : raiseName (renO π e) (renO π c) = (raiseName e c).map π := by
  rw [raiseName_eq, raiseName_eq]
  cases c with
  | some _ => cases e <;> rfl
  | none =>
    cases e with
    | none => rfl
    | some x =>
      simp only [renO, nameOf_ren, asNameCall_ren]
      cases nameOf x with
      | some p => rfl
      | none =>
        cases asNameCall x with
        | none => rfl
        | some q => obtain ⟨g, c, args⟩ := q; cases args <;> rfl

theorem printArgs_ren (hinj : InjOn π P) (hs : Stat π P) (e : Expr) (hok : okE P e = true) :
    printArgs (renE π e) = (printArgs e).map (renEs π) := by
  rw [printArgs_eq, printArgs_eq, asNameCall_ren]
  cases hc : asNameCall e with
  | none => rfl
  | some p =>
    simp only [Option.map_some, Option.bind_some,
      res_iff hinj hs "print" (by simp [reserved]) p.1 (asNameCall_names e p.1 p.2.1 p.2.2 hc hok).1]
    split <;> rfl

theorem exprStmt_ren (h : Rel π P s s') (hs : Stat π P) (e : Expr) (hok : okE P e = true) :
    ResRel (Rel π P) (exprStmt s e) (exprStmt s' (renE π e)) := by
  unfold exprStmt
  rw [isConst_ren, printArgs_ren h.inj hs e hok]
  refine .ite h ?_
  cases hp : printArgs e with
  | none => exact evalThen_sim (evalE_ren h hs e hok) h (fun _ => h)
  | some args =>
    simp only [Option.map_some]
    rw [evalArgs_ren h hs args (okEs_of_printArgs e args hp hok)]
    cases evalArgs s args with
    | none => trivial
    | some r =>
      cases r with
      | error x => exact ⟨rfl, h⟩
      | ok vs => exact h.withOut (fun out => out ++ [" ".intercalate (vs.map Val.show)]) id

theorem renAlias_name (π : Ren) (a : Alias) : (renAlias π a).name = a.name := by
  unfold renAlias; cases a.asname <;> rfl

/-- `d`: what the import binds without `as`; then it keeps its spelling -/
theorem renAlias_bound (π : Ren) (a : Alias) (d : String)
    (hfix : (a.asname.isSome || π (a.asname.getD d) == a.asname.getD d) = true) :
    (renAlias π a).asname.getD d = π (a.asname.getD d) := by
  unfold renAlias
  cases ha : a.asname with
  | some c => rfl
  | none =>
    rw [ha] at hfix
    show a.asname.getD d = π d
    rw [ha]
    exact (by simpa using hfix : π d = d).symm

theorem importOne_ren (h : Rel π P s s') (a : Alias)
    (hP : P (aliasBound a) = true) (hfix : (a.asname.isSome || π (aliasBound a) == aliasBound a) = true) :
    Rel π P (importOne s a) (importOne s' (renAlias π a)) := by
  unfold importOne
  simp only [renAlias_name, renAlias_bound π a _ hfix]
  exact (h.assign (aliasBound a) hP (.mod a.name)).withOut id (fun i => i ++ ["import " ++ a.name])

theorem importFromOne_ren (h : Rel π P s s') (m : Option String) (l : Nat) (a : Alias)
    (hP : P (fromBound a) = true) (hfix : (a.asname.isSome || π (fromBound a) == fromBound a) = true) :
    Rel π P (importFromOne m l s a) (importFromOne m l s' (renAlias π a)) := by
  unfold importFromOne
  simp only [renAlias_name, renAlias_bound π a _ hfix]
  exact (h.assign (fromBound a) hP _).withOut id (fun i => i ++ ["from " ++ fromName m l ++ " import " ++ a.name])

/-- `step`: `importOne`, `importFromOne m l` -/
theorem foldlAlias_ren {step : St → Alias → St} {bound : Alias → String}
    (hstep : ∀ {s s'} (a : Alias), Rel π P s s' → P (bound a) = true →
      (a.asname.isSome || π (bound a) == bound a) = true → Rel π P (step s a) (step s' (renAlias π a))) :
    ∀ (names : List Alias) (s s' : St), Rel π P s s' → (names.map bound).all P = true →
      names.all (fun a => a.asname.isSome || π (bound a) == bound a) = true →
      Rel π P (names.foldl step s) ((names.map (renAlias π)).foldl step s')
  | [] => fun _ _ h _ _ => h
  | a :: rest => fun s s' h hP hfix => by
    simp only [List.map_cons, List.all_cons, Bool.and_eq_true] at hP hfix
    exact foldlAlias_ren hstep rest _ _ (hstep a h hP.1 hfix.1) hP.2 hfix.2

theorem hasStar_ren (π : Ren) (names : List Alias) : hasStar (names.map (renAlias π)) = hasStar names := by
  simp only [hasStar, List.any_map, Function.comp_def, renAlias_name]

theorem simpleExec_ren (h : Rel π P s s') (hs : Stat π P) (st : Stmt) (hn : (namesS st).all P = true)
    (hf : fixedS π st = true) : ResRel (Rel π P) (simpleExec s st) (simpleExec s' (renStmt π st)) := by
  cases st with
  | pass | break_ | continue_ | global _ => exact h
  | functionDef a n args body decs ret tps => exact .ite h trivial
  | return_ v =>
    cases v with
    | none => exact ⟨rfl, h⟩
    | some e => exact evalThen_sim (evalE_ren h hs e hn) h (fun v => ⟨rfl, h⟩)
  | expr e => exact exprStmt_ren h hs e hn
  | assign ts e =>
    simp only [renStmt, simpleExec, assignTarget_ren]
    simp only [namesS, List.all_append, Bool.and_eq_true] at hn
    cases hx : assignTarget ts with
    | none => trivial
    | some x =>
      simp only [Option.map_some]
      have hPx : P x = true := List.all_eq_true.mp hn.1 x (assignTarget_mem ts x hx)
      exact evalThen_sim (evalE_ren h hs e hn.2) h (fun v => h.assign x hPx v)
  | augAssign tg op e =>
    simp only [renStmt, simpleExec, nameOf_ren]
    simp only [namesS, List.all_append, Bool.and_eq_true] at hn
    cases hx : nameOf tg with
    | none => trivial
    | some p =>
      obtain ⟨x, c⟩ := p
      simp only [Option.map_some]
      cases nameOf_some tg x c hx
      have hPx : P x = true := okE_name hn.1
      have hb : okE P (.binOp (.name x c) op e) = true := okE_binOp.mpr ⟨hn.1, hn.2⟩
      exact evalThen_sim (evalE_ren h hs (.binOp (.name x c) op e) hb) h (fun v => h.assign x hPx v)
  | assert_ c msg =>
    simp only [namesS, List.all_append, Bool.and_eq_true] at hn
    exact evalThen_sim (evalE_ren h hs c hn.1) h fun v => .ite h ⟨rfl, h⟩
  | import_ names =>
    exact foldlAlias_ren (fun a h => importOne_ren h a) names s s' h hn hf
  | importFrom m names l =>
    simp only [renStmt, simpleExec, hasStar_ren]
    exact .ite trivial
      (foldlAlias_ren (fun a h => importFromOne_ren h m l a) names s s' h hn hf)
  | raise_ e c =>
    simp only [renStmt, simpleExec, raiseName_ren]
    cases hr : raiseName e c with
    | none => trivial
    | some n =>
      simp only [Option.map_some]
      have hmem := raiseName_mem e c n hr
      have hfix : π n = n := by
        simp only [fixedS] at hf
        simpa using List.all_eq_true.mp hf n (List.mem_append_left _ hmem)
      rw [hfix]
      exact .ite ⟨rfl, h⟩ trivial
  | annAssign tg ann v simple =>
    simp only [renStmt, simpleExec, nameOf_ren, h.mode]
    simp only [namesS, List.all_append, Bool.and_eq_true] at hn
    refine .ite ?_ trivial
    cases hx : nameOf tg with
    | none => trivial
    | some p =>
      obtain ⟨x, c⟩ := p
      cases nameOf_some tg x c hx
      have hPx : P x = true := okE_name hn.1.1
      cases v with
      | none => exact h
      | some e =>
        simp only [Option.map_some, renO]
        exact evalThen_sim (evalE_ren h hs e hn.2) h (fun w => h.assign x hPx w)
  | _ => trivial

theorem isDbgName_ren (hinj : InjOn π P) (hs : Stat π P) (c : Expr) (hok : okE P c = true) :
    isDbgName (renE π c) = isDbgName c := by
  cases c with
  | name x ctx => simp only [renE, isDbgName, debug_iff hinj hs x (okE_name hok)]
  | _ => rfl

theorem debugCmp_ren (hinj : InjOn π P) (hs : Stat π P) (c : Expr) (hok : okE P c = true) :
    debugCmp (renE π c) = (debugCmp c).map (fun p => (p.1, renE π p.2)) := by
  cases c with
  | compare l ops cs => exact debugCmp_trans (renE_trans π) l ops cs (isDbgName_ren hinj hs l (okE_compare hok).1)
  | _ => rfl

theorem forRange_ren (hinj : InjOn π P) (hs : Stat π P) (tg it : Expr) (hok : okE P it = true) :
    forRange (renE π tg) (renE π it) = (forRange tg it).map (fun p => (π p.1, renE π p.2)) := by
  rw [forRange_eq, forRange_eq, nameOf_ren, asNameCall_ren]
  cases nameOf tg with
  | none => rfl
  | some p =>
    obtain ⟨x, c⟩ := p
    cases hc : asNameCall it with
    | none => rfl
    | some q =>
      obtain ⟨f, c2, args⟩ := q
      have hP := (asNameCall_names it f c2 args hc hok).1
      simp only [Option.map_some]
      match args with
      | [] => rfl
      | [e] =>
        simp only [renEs, res_iff hinj hs "range" (by simp [reserved]) f hP]
        cases f == "range" <;> rfl
      | _ :: _ :: _ => rfl

theorem callOf_ren (st : Stmt) (hf : fixedS π st = true) :
    callOf (renStmt π st) = (callOf st).map (fun p => (p.1, renEs π p.2.1, p.2.2.map π)) := by
  cases st with
  | expr e =>
    simp only [renStmt]
    rw [callOf_expr_eq, callOf_expr_eq, asNameCall_ren]
    cases hc : asNameCall e with
    | none => rfl
    | some p =>
      obtain ⟨g, c, args⟩ := p
      have hfix : π g = g := by
        rw [asNameCall_some e g c args hc] at hf
        simpa [fixedS] using hf
      simp only [Option.map_some, Option.bind_some, hfix]
      cases g == "print" <;> rfl
  | assign ts v =>
    simp only [renStmt]
    rw [callOf_assign_eq, callOf_assign_eq, asNameCall_ren, assignTarget_ren]
    cases assignTarget ts with
    | none => rfl
    | some x =>
      cases hc : asNameCall v with
      | none => rfl
      | some p =>
        obtain ⟨g, c, args⟩ := p
        have hfix : π g = g := by
          rw [asNameCall_some v g c args hc] at hf
          simpa [fixedS] using hf
        simp only [Option.map_some, Option.bind_some, hfix]
  | _ => rfl

def renFT (R : RenTable) : FTab → FTab
  | [] => []
  | (g, ps, b) :: rest => (g, ps, renFnBody (R g).1 (R g).2 b) :: renFT R rest

theorem lookup_renFT (R : RenTable) (f : String) (ft : FTab) :
    (renFT R ft).lookup f = (ft.lookup f).map (fun pb => (pb.1, renFnBody (R f).1 (R f).2 pb.2)) :=
  lookup_mapBodies (B := fun g b => renFnBody (R g).1 (R g).2 b) rfl (fun _ _ _ _ => rfl) f ft

/-- the two bodies, run from the states a call builds (`St.enter`, unfolded), end alike -/
def CalleeOK (o : Bool) (R : RenTable) (ft : FTab) (k : Nat) : Prop :=
  ∀ f ps b bound bound', ft.lookup f = some (ps, b) → bindTop b = some bound →
    bindTop (renFnBody (R f).1 (R f).2 b) = some bound' →
    ∀ (g : Env) (out imps : List String) (vs : List Val), (∀ v ∈ vs, ∀ n, v ≠ .mod n) → ps.length = vs.length →
    ResRel (Rel (R f).1 (fnP ps b))
      (asCall (execL ⟨ft, o⟩ k
        { globals := g, locals := some (ps.zip vs), declGlobal := declaredGlobals b, out := out, imports := imps,
          localNames := ps ++ canonNames bound } b))
      (asCall (execL ⟨renFT R ft, o⟩ k
        { globals := g, locals := some (ps.zip vs), declGlobal := declaredGlobals (renFnBody (R f).1 (R f).2 b), out := out, imports := imps,
          localNames := ps ++ canonNames bound' } (renFnBody (R f).1 (R f).2 b)))

def StaticOK (R : RenTable) (ft : FTab) : Prop :=
  ∀ f ps b, ft.lookup f = some (ps, b) → (bindTop (renFnBody (R f).1 (R f).2 b)).isSome = (bindTop b).isSome

abbrev renRuns (o : Bool) (R : RenTable) (ft : FTab) : Runs := .eq o ft (renFT R ft)

/-- A call into the renamed table, for any relation `Q` of the callers that makes them agree on globals, output and import
    events: that much the callee claim gives back, so `Q` need only survive taking those over and storing the result. -/
theorem callFn_renFT (R : RenTable) (ft : FTab) (hst : StaticOK R ft) (N : Nat) (hcal : ∀ k, k < N → CalleeOK o R ft k)
    {Q : St → St → Prop} (h : Q s s') (hg : s'.globals = s.globals) (ho : s'.out = s.out) (hi : s'.imports = s.imports)
    {f : String} {args args' : List Expr} {tgt tgt' : Option String}
    (hargs : ValOK (renRuns o R ft).bad (evalArgs s args) (evalArgs s' args'))
    (hback : ∀ g out imps, Q { s with globals := g, out := out, imports := imps } { s' with globals := g, out := out, imports := imps })
    (htgt : ∀ t t' v, Q t t' → Q (t.store tgt v) (t'.store tgt' v)) (n : Nat) (hn : n ≤ N) :
    (renRuns o R ft).Rel Q (callFn ⟨ft, o⟩ n s f args tgt) (callFn ⟨renFT R ft, o⟩ n s' f args' tgt') := by
  refine callFn_rel (K := renRuns o R ft) (Qc := fun s1 s1' => s1'.globals = s1.globals ∧ s1'.out = s1.out ∧ s1'.imports = s1.imports)
    h hargs (fun (hl : ft.lookup f = none) => Or.inr ((lookup_renFT R f ft).trans (by rw [hl]; rfl)))
    (fun ps b (hl : ft.lookup f = some (ps, b)) => ?_) ?_ htgt
  · refine ⟨_, (lookup_renFT R f ft).trans (by rw [hl]; rfl), Or.inr (hst f ps b hl), ?_⟩
    intro k bound bound' vs hk hb hb' hev hlen
    have hc := hcal k (Nat.lt_of_lt_of_le hk hn) f ps b bound bound' hl hb hb' s.globals s.out s.imports vs
      (evalArgs_noMod s args vs hev) hlen
    unfold St.enter
    rw [hg, ho, hi]
    exact .of_rel (ResRel.mono (fun _ _ q => ⟨q.globals, q.out, q.imports⟩) _ _ hc)
  · intro s1 s1' ⟨hg1, ho1, hi1⟩
    unfold St.leave
    rw [hg1, ho1, hi1]
    exact hback _ _ _

theorem callFn_ren (R : RenTable) (ft : FTab) (hst : StaticOK R ft) (N : Nat) (hcal : ∀ k, k < N → CalleeOK o R ft k)
    (h : Rel π P s s') (hs : Stat π P) (f : String) (args : List Expr)
    (tgt : Option String) (hargs : okEs P args = true) (htgt : ∀ x, tgt = some x → P x = true) (n : Nat) (hn : n ≤ N) :
    (renRuns o R ft).Rel (Rel π P) (callFn ⟨ft, o⟩ n s f args tgt) (callFn ⟨renFT R ft, o⟩ n s' f (renEs π args) (tgt.map π)) :=
  callFn_renFT R ft hst N hcal h h.globals h.out h.imports (.of_eq (evalArgs_ren h hs args hargs)) h.back
    (fun t t' v q => by
      cases tgt with
      | none => exact q
      | some x => exact q.assign x (htgt x rfl) v) n hn

theorem isBlockStmt_ren (π : Ren) (st : Stmt) : isBlockStmt (renStmt π st) = isBlockStmt st := by
  cases st with
  | try_ star _ _ _ _ => cases star <;> rfl
  | for_ isAsync _ _ _ _ => cases isAsync <;> rfl
  | _ => rfl

theorem flat_ren (R : RenTable) (ft : FTab) (hst : StaticOK R ft) (N : Nat) (hcal : ∀ k, k < N → CalleeOK o R ft k)
    (hs : Stat π P) (st : Stmt) (hn : (namesS st).all P = true) (hf : fixedS π st = true) (hblk : isBlockStmt st = false) :
    Sim1 (renRuns o R ft) (Rel π P) N st (renStmt π st) := by
  refine .flat hblk ((isBlockStmt_ren π st).trans hblk) (by cases st <;> rfl) ?_
  rw [callOf_ren st hf]
  cases hc : callOf st with
  | none => exact ⟨rfl, fun s s' h => .of_rel (simpleExec_ren h hs st hn hf)⟩
  | some p =>
    have hnm := callOf_names st p.1 p.2.1 p.2.2 hc hn
    exact ⟨_, _, rfl, fun n hn s s' h => callFn_ren R ft hst N hcal h hs p.1 p.2.1 p.2.2 hnm.1 hnm.2 n hn⟩

theorem sim_ren (R : RenTable) (ft : FTab) (hst : StaticOK R ft) (N : Nat) (hcal : ∀ k, k < N → CalleeOK o R ft k)
    (hs : Stat π P) (hinj : InjOn π P) :
    BlockInd
      (fun st => (namesS st).all P = true → fixedS π st = true → Sim1 (renRuns o R ft) (Rel π P) N st (renStmt π st))
      (fun l => (namesL l).all P = true → fixedL π l = true → SimL (renRuns o R ft) (Rel π P) N l (renBody π l))
      (fun hl => (namesH hl).all P = true → fixedH π hl = true →
        SimH (renRuns o R ft) (Rel π P) N hl (renHandlers π hl)) where
  flat st hblk hn hf := flat_ren R ft hst N hcal hs st hn hf hblk
  if_ c b l ihb ihl hn hf := by
    have hp := names_if hn
    simp only [fixedS, Bool.and_eq_true] at hf
    simp only [renStmt]
    exact .if_ (fun s s' h => .of_eq (condE_trans c (isDbgName_ren hinj hs c hp.1) (debugCmp_ren hinj hs c hp.1) (evalE_ren h hs) hp.1))
      (ihb hp.2.1 hf.1) (ihl hp.2.2 hf.2)
  while_ c b l ihb ihl hn hf := by
    have hp := names_if (c := c) hn
    simp only [fixedS, Bool.and_eq_true] at hf
    simp only [renStmt]
    exact .while_ (fun s s' h => .of_eq (evalE_ren h hs c hp.1)) (ihb hp.2.1 hf.1) (ihl hp.2.2 hf.2)
  for_ tg it b l ihb ihl hn hf := by
    have hp := names_for hn
    simp only [fixedS, Bool.and_eq_true] at hf
    simp only [renStmt]
    refine .for_ ⟨forRange_ren hinj hs tg it hp.2.1, fun x e hfr => ?_⟩ (ihb hp.2.2.1 hf.1) (ihl hp.2.2.2 hf.2)
    have hxe := forRange_names tg it x e hfr hp.1 hp.2.1
    exact ⟨fun s s' h => .of_eq (evalE_ren h hs e hxe.2), fun s s' v h => h.assign x hxe.1 v⟩
  try_ b hl l f ihb ihh ihl ihf hn hf := by
    have hp := names_try hn
    simp only [fixedS, Bool.and_eq_true, and_assoc] at hf
    simp only [renStmt]
    exact .try_ (ihb hp.1 hf.1) (ihh hp.2.1 hf.2.1) (ihl hp.2.2.1 hf.2.2.1) (ihf hp.2.2.2 hf.2.2.2)
  nil _ _ := by simp only [renBody]; exact .nil
  cons st l ihs ihl hn hf := by
    have hp := names_cons hn
    simp only [fixedL, Bool.and_eq_true] at hf
    simp only [renBody]
    exact .cons (ihs hp.1 hf.1) (ihl hp.2 hf.2)
  hnil _ _ := by simp only [renHandlers]; exact .nil
  hcons ty nm b hl ihb ihh hn hf := by
    have hp := names_hcons hn
    simp only [fixedH, Bool.and_eq_true, and_assoc] at hf
    simp only [renHandlers]
    exact .cons (by rw [renO_fixed π ty hf.1]) (ihb hp.1 hf.2.1) (ihh hp.2 hf.2.2)

/-- For every `π` and `P`: each callee runs under its own renaming. -/
def GoodR (o : Bool) (R : RenTable) (ft : FTab) (k : Nat) : Prop :=
  (∀ (π : Ren) (P : String → Bool), Stat π P → ∀ s s', Rel π P s s' → ∀ st, okS π P st = true →
      ResRel (Rel π P) (exec1 ⟨ft, o⟩ k s st) (exec1 ⟨renFT R ft, o⟩ k s' (renStmt π st))) ∧
  (∀ (π : Ren) (P : String → Bool), Stat π P → ∀ s s', Rel π P s s' → ∀ l, okL π P l = true →
      ResRel (Rel π P) (execL ⟨ft, o⟩ k s l) (execL ⟨renFT R ft, o⟩ k s' (renBody π l))) ∧
  CalleeOK o R ft k

theorem exec1_ren (R : RenTable) (ft : FTab) (hst : StaticOK R ft) (n : Nat) (ih : ∀ k, k < n → GoodR o R ft k)
    (hs : Stat π P) (st : Stmt) (s s' : St) (h : Rel π P s s') (hok : okS π P st = true) :
    ResRel (Rel π P) (exec1 ⟨ft, o⟩ n s st) (exec1 ⟨renFT R ft, o⟩ n s' (renStmt π st)) :=
  have ⟨hn, hf⟩ := (Bool.and_eq_true _ _).mp hok
  Runs.rel_eq.mp ((sim_ren R ft hst n (fun k hk => (ih k hk).2.2) hs h.inj).stmt st hn hf n (Nat.le_refl n) s s' h)

theorem execH_ren (R : RenTable) (ft : FTab) (hst : StaticOK R ft) (n : Nat) (ih : ∀ k, k < n → GoodR o R ft k)
    {π : Ren} {P : String → Bool} (hs : Stat π P) :
    (hl : List Handler) → (s s' : St) → (x : String) → Rel π P s s' → okH π P hl = true →
      ResRel (Rel π P) (execH ⟨ft, o⟩ n s x hl) (execH ⟨renFT R ft, o⟩ n s' x (renHandlers π hl)) :=
  fun hl s s' x h hok =>
    have ⟨hn, hf⟩ := (Bool.and_eq_true _ _).mp hok
    Runs.rel_eq.mp ((sim_ren R ft hst n (fun k hk => (ih k hk).2.2) hs h.inj).handlers hl hn hf n (Nat.le_refl n) s s' x h)

theorem execL_ren (R : RenTable) (ft : FTab) (hst : StaticOK R ft) (n : Nat) (ih : ∀ k, k < n → GoodR o R ft k)
    (hs : Stat π P) (l : List Stmt) (s s' : St) (h : Rel π P s s') (hok : okL π P l = true) :
    ResRel (Rel π P) (execL ⟨ft, o⟩ n s l) (execL ⟨renFT R ft, o⟩ n s' (renBody π l)) :=
  have ⟨hn, hf⟩ := (Bool.and_eq_true _ _).mp hok
  Runs.rel_eq.mp ((sim_ren R ft hst n (fun k hk => (ih k hk).2.2) hs h.inj).list l hn hf n (Nat.le_refl n) s s' h)

end PMV.PyCore
