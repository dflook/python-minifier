import PMV.Proofs.Transforms
/-
  C05: remove_object_base and remove_explicit_return_none rewrite single statements and function bodies (`mapT`); each leaves
  the canonical form with only its own option on (`ObjOnly`, `RetOnly`) unchanged.
-/
namespace PMV.Transforms
open PMV PMV.Spec.Rewrites

def mapT (f : Stmt → Stmt) (g : List Stmt → List Stmt) : SuiteT := { suiteF := fun _ b => b, stmtF := f, funcBodyF := g }

@[simp] theorem mapT_suiteF (f : Stmt → Stmt) (g : List Stmt → List Stmt) (m : Bool) (b : List Stmt) : (mapT f g).suiteF m b = b := rfl
@[simp] theorem mapT_stmtF (f : Stmt → Stmt) (g : List Stmt → List Stmt) (s : Stmt) : (mapT f g).stmtF s = f s := rfl
@[simp] theorem mapT_funcBodyF (f : Stmt → Stmt) (g : List Stmt → List Stmt) (b : List Stmt) : (mapT f g).funcBodyF b = g b := rfl

section AbsorbMap
variable (c : COpts) (f : Stmt → Stmt) (g : List Stmt → List Stmt)
  (hf : ∀ cls s, cStmt c cls (f s) = cStmt c cls s)
  (hg : ∀ b, cSuite c true (cBody c none (g b)) = cSuite c true (cBody c none b))
include hf hg

theorem absorbs_mapT : Absorbs c (mapT f g) := ⟨hf, fun _ _ _ _ => rfl, hg⟩

theorem mapAbsorbStmt : (s : Stmt) → (cls : Option (List Expr × List Expr)) →
    cStmt c cls (travStmt (mapT f g) s) = cStmt c cls s :=
  (absorbs_mapT c f g hf hg).stmt_trav
theorem mapAbsorbHandlers : (hs : List Handler) → (cls : Option (List Expr × List Expr)) →
    cHandlers c cls (travHandlers (mapT f g) hs) = cHandlers c cls hs :=
  (absorbs_mapT c f g hf hg).handlers_trav
theorem mapAbsorbCases : (cs : List MatchCase) → (cls : Option (List Expr × List Expr)) →
    cCases c cls (travCases (mapT f g) cs) = cCases c cls cs :=
  (absorbs_mapT c f g hf hg).cases_trav

end AbsorbMap

/-! `cls` only matters to annotated assignments: with remove_annotations off for variables and for class attributes (`AnnOff`)
    the canonical form does not depend on it -/

def AnnOff (c : COpts) : Prop := c.ann.variables = false ∧ c.ann.classAttrs = false

theorem annAssign_off (c : COpts) (h : AnnOff c) (cls : Option (List Expr × List Expr)) (tg ann : Expr) (v : Option Expr) (s : Bool) :
    annAssign c.ann cls tg ann v s = .annAssign tg ann v s := by
  unfold annAssign annEnabled
  cases cls <;> simp [h.1, h.2]

mutual
theorem cStmt_cls (c : COpts) (h : AnnOff c) : (s : Stmt) → (cls cls' : Option (List Expr × List Expr)) → cStmt c cls s = cStmt c cls' s
  | .for_ _ _ _ body orelse, cls, cls' | .while_ _ body orelse, cls, cls' | .if_ _ body orelse, cls, cls' => by
    simp only [cStmt]; rw [cBody_cls c h body cls cls', cBody_cls c h orelse cls cls']
  | .with_ a items body, cls, cls' => by simp only [cStmt]; rw [cBody_cls c h body cls cls']
  | .try_ st body hs orelse fin, cls, cls' => by
    simp only [cStmt]
    rw [cBody_cls c h body cls cls', cHandlers_cls c h hs cls cls', cBody_cls c h orelse cls cls', cBody_cls c h fin cls cls']
  | .match_ s cases, cls, cls' => by simp only [cStmt]; rw [cCases_cls c h cases cls cls']
  | .annAssign tg ann v s, cls, cls' => by simp only [cStmt, annAssign_off c h]
  -- a nested def or class starts its own context, and no other statement looks at `cls`
  | .functionDef .., _, _ | .classDef .., _, _ | .return_ _, _, _ | .delete _, _, _ | .assign .., _, _ | .typeAlias .., _, _
  | .augAssign .., _, _ | .raise_ .., _, _ | .assert_ .., _, _ | .import_ _, _, _ | .importFrom .., _, _ | .global _, _, _
  | .nonlocal _, _, _ | .expr _, _, _ | .pass, _, _ | .break_, _, _ | .continue_, _, _ => rfl
theorem cBody_cls (c : COpts) (h : AnnOff c) : (b : List Stmt) → (cls cls' : Option (List Expr × List Expr)) → cBody c cls b = cBody c cls' b
  | [], _, _ => rfl
  | s :: ss, cls, cls' => by simp only [cBody]; rw [cStmt_cls c h s cls cls', cBody_cls c h ss cls cls']
theorem cHandlers_cls (c : COpts) (h : AnnOff c) : (hs : List Handler) → (cls cls' : Option (List Expr × List Expr)) → cHandlers c cls hs = cHandlers c cls' hs
  | [], _, _ => rfl
  | .mk ty n body :: hs, cls, cls' => by simp only [cHandlers]; rw [cBody_cls c h body cls cls', cHandlers_cls c h hs cls cls']
theorem cCases_cls (c : COpts) (h : AnnOff c) : (cs : List MatchCase) → (cls cls' : Option (List Expr × List Expr)) → cCases c cls cs = cCases c cls' cs
  | [], _, _ => rfl
  | .mk p g body :: cs, cls, cls' => by simp only [cCases]; rw [cBody_cls c h body cls cls', cCases_cls c h cs cls cls']
end

def ObjOnly : COpts := { object := true }

theorem removeObjectStmt_invariant {α : Sort _} (P : Stmt → α)
    (h : ∀ n bases kws body decs tps,
      P (.classDef n (bases.filter fun b => !isObjectName b) kws body decs tps) = P (.classDef n bases kws body decs tps))
    (st : Stmt) : P (removeObjectStmt st) = P st := by
  cases st with
  | classDef => exact h ..
  | _ => rfl

theorem absorbs_removeObject : Absorbs ObjOnly removeObject :=
  absorbs_mapT ObjOnly removeObjectStmt id (fun cls => removeObjectStmt_invariant _ fun n bases kws body decs tps => by
    simp only [ObjOnly, cStmt, if_true, List.filter_filter, Bool.and_self]
    rw [cBody_cls _ ⟨rfl, rfl⟩ body (some (decs, bases.filter _)) (some (decs, bases))]) fun _ => rfl

theorem dtbr_snoc (l : List Stmt) : dropTrailingBareReturn (l ++ [.return_ none]) = dropTrailingBareReturn l := by
  induction l with
  | nil => simp [dropTrailingBareReturn, isBareReturn]
  | cons x xs ih => simp only [List.cons_append, dropTrailingBareReturn, ih]

def RetOnly : COpts := { returnNone := true }

theorem cSuite_retOnly (fb : Bool) (b : List Stmt) :
    cSuite RetOnly fb b = ((if fb then dropTrailingBareReturn (b.filter (fun s => !isZero s)) else b.filter (fun s => !isZero s))).filter (fun s => !isZero s) := by
  have h3 : (fun s => !dropStmt RetOnly s) = (fun s => !isZero s) := by
    funext s; simp [dropStmt, RetOnly, COpts.placeholders]
  simp only [cSuite, flatMap_debugSplice RetOnly rfl, flatMap_splitImport RetOnly rfl, h3]
  cases fb <;> simp [RetOnly]

theorem dtr_ret (p : List Stmt) : dropTrailingReturn (p ++ [.return_ none]) = if p.isEmpty then [zeroStmt] else p := by
  simp [dropTrailingReturn, List.getLast?_append]

theorem dtr_other (b : List Stmt) (h : b.getLast? ≠ some (.return_ none)) : dropTrailingReturn b = if b.isEmpty then [zeroStmt] else b := by
  unfold dropTrailingReturn
  split
  · rename_i heq; exact absurd heq h
  · rfl

/-- whatever does not tell a lone placeholder from the empty block, nor sees a bare `return` at the end, does not see the trailing
    `return` dropped -/
theorem dropTrailingReturn_invariant {α : Sort _} (P : List Stmt → α) (hz : P [zeroStmt] = P [])
    (hr : ∀ l, P (l ++ [.return_ none]) = P l) (b : List Stmt) : P (dropTrailingReturn b) = P b := by
  have key : ∀ b' : List Stmt, P (if b'.isEmpty then [zeroStmt] else b') = P b'
    | [] => hz
    | _ :: _ => rfl
  by_cases hl : b.getLast? = some (.return_ none)
  · obtain ⟨p, rfl⟩ := List.getLast?_eq_some_iff.mp hl
    rw [dtr_ret, key, hr]
  · rw [dtr_other b hl, key]

theorem returnNone_body (b : List Stmt) :
    cSuite RetOnly true (cBody RetOnly none (dropTrailingReturn b)) = cSuite RetOnly true (cBody RetOnly none b) :=
  dropTrailingReturn_invariant (fun b => cSuite RetOnly true (cBody RetOnly none b)) rfl (fun l => by
      have h1 : cBody RetOnly none [Stmt.return_ none] = [Stmt.return_ none] := rfl
      have h2 : [Stmt.return_ none].filter (fun s => !isZero s) = [Stmt.return_ none] := rfl
      rw [cBody_append, cSuite_retOnly, cSuite_retOnly]
      simp only [if_true]
      rw [h1, List.filter_append, h2, dtbr_snoc]) b

theorem returnNoneStmt_invariant {α : Sort _} (P : Stmt → α) (h : P (.return_ none) = P (.return_ (some (.constant .none))))
    (st : Stmt) : P (returnNoneStmt st) = P st := by
  unfold returnNoneStmt
  split
  · exact h
  · rfl

theorem absorbs_removeReturnNone : Absorbs RetOnly removeReturnNone :=
  absorbs_mapT RetOnly returnNoneStmt dropTrailingReturn (fun cls => returnNoneStmt_invariant (cStmt RetOnly cls) rfl) returnNone_body

end PMV.Transforms
