import PMV.Proofs.LayoutSpec
import PMV.Proofs.LayoutRun
import PMV.Spec.LayoutPlain
/-
  Where a `yield` is visited as a statement (pattern value / class, type-alias name, annotated name) the printer ends the
  statement: the run holds one layout token and is still balanced.  `h : … ∨ A .endStmt` says which of the two is claimed.
-/
namespace PMV.Spec.Layout
open PMV PMV.Token PMV.Printer

section
variable {A : Tok → Prop} (hA : Real A)
include hA

theorem tExpr_run (t : PrecTable) (e : Expr) : Run A (tExpr t e) := flat_run hA _
theorem tTestlist_run (t : PrecTable) (e : Expr) : Run A (tTestlist t e) := flat_run hA _
theorem tValue_run (t : PrecTable) (e : Expr) : Run A (tValue t e) := by
  unfold tValue; split <;> exact flat_run hA _
theorem tOptExpr_run (t : PrecTable) : (e : Option Expr) → Run A (tOptExpr t e)
  | none => .nil
  | some x => tExpr_run hA t x

theorem tVisit_run (t : PrecTable) (e : Expr) (h : isYield e = false ∨ A .endStmt) : Run A (tVisit t e) := by
  cases e with
  | yield | yieldFrom => exact (flat_run hA _).append (.cons (.tok _ nofun) (h.resolve_left (by simp [isYield])) .nil)
  | _ => exact flat_run hA _

theorem mappingItems_run : (ks ps : List (List Tok)) → RunAll A ks → RunAll A ps → RunAll A (mappingItems ks ps)
  | [], _ | _ :: _, [] => fun _ _ => .nil
  | _ :: ks, _ :: ps => fun hk hp => .cons (hk.head.append (.colon hA hp.head)) (mappingItems_run ks ps hk.tail hp.tail)

theorem kwdItems_run : (as : List String) → (ps : List (List Tok)) → RunAll A ps → RunAll A (kwdItems as ps)
  | [], _ | _ :: _, [] => fun _ => .nil
  | _ :: as, _ :: ps => fun hp => .cons (.ident hA _ (.eq hA hp.head)) (kwdItems_run as ps hp.tail)

theorem parenToksIf_run (b : Bool) {ts : List Tok} (h : Run A ts) : Run A (parenToksIf b ts) := by
  cases b
  · exact h
  · exact .paren hA h

theorem map_tExpr_run (t : PrecTable) (es : List Expr) : RunAll A (es.map (tExpr t)) := .map _ _ fun _ => flat_run hA _

end

section
variable {A : Tok → Prop}

mutual
theorem patToks_run (hA : Real A) (t : PrecTable) : (p : Pattern) → patOK p = true ∨ A .endStmt → Run A (patToks t p)
  | .matchValue v => fun h => tVisit_run hA t v (h.imp_left (by simp [patOK]))
  | .matchSingleton c => fun _ => .ident hA _ .nil
  | .matchSequence ps => fun h => .brack hA (commaSep_run hA _ (patsToks_run hA t ps h))
  | .matchMapping ks ps rest => fun h => by
    simp only [patToks]
    refine .brace hA (commaSep_run hA _ ((mappingItems_run hA _ _ (map_tExpr_run hA t ks) (patsToks_run hA t ps h)).append ?_))
    cases rest with
    | none => exact .nil
    | some r => exact .cons (.op hA _ (.ident hA _ .nil)) .nil
  | .matchClass cls ps kas kps => fun h => by
    have h' := h.imp_left (by simpa only [patOK, Bool.and_eq_true, Bool.not_eq_true'] using id)
    rw [patToks]
    have := (tVisit_run hA t cls (h'.imp_left (·.1.1))).append (.paren hA (commaSep_run hA _
      ((patsToks_run hA t ps (h'.imp_left (·.1.2))).append (kwdItems_run hA kas _ (patsToks_run hA t kps (h'.imp_left (·.2)))))))
    simpa [List.append_assoc] using this
  | .matchStar n => fun _ => .op hA _ (.ident hA _ .nil)
  | .matchAs none n => fun _ => .ident hA _ .nil
  | .matchAs (some p) n => fun h =>
    (parenToksIf_run hA _ (patToks_run hA t p h)).append (.kw hA _ (.ident hA _ .nil))
  | .matchOr ps => fun h => joinWith_run _ (.sym hA _ (by simp) .nil) _ (orItems_run hA t ps h)
theorem patsToks_run (hA : Real A) (t : PrecTable) : (ps : List Pattern) → patsOK ps = true ∨ A .endStmt → RunAll A (patsToks t ps)
  | [] => fun _ => .nil
  | p :: ps => fun h => by
    have h' := h.imp_left (by simpa only [patsOK, Bool.and_eq_true] using id)
    exact .cons (patToks_run hA t p (h'.imp_left (·.1))) (patsToks_run hA t ps (h'.imp_left (·.2)))
theorem orItems_run (hA : Real A) (t : PrecTable) : (ps : List Pattern) → patsOK ps = true ∨ A .endStmt → RunAll A (orItems t ps)
  | [] => fun _ => .nil
  | p :: ps => fun h => by
    have h' := h.imp_left (by simpa only [patsOK, Bool.and_eq_true] using id)
    exact .cons (parenToksIf_run hA _ (patToks_run hA t p (h'.imp_left (·.1)))) (orItems_run hA t ps (h'.imp_left (·.2)))
end

end

section
variable {A : Tok → Prop} (hA : Real A)
include hA

/-- `while`, `if` / `elif`, `match` -/
theorem kwHdr_run (k : String) (t : PrecTable) (e : Expr) : Run A (.kw k :: tExpr t e ++ [.delim ":"]) :=
  (Run.kw hA k (tExpr_run hA t e)).append (.colon hA .nil)

/-- `try:`, `else:`, `finally:` -/
theorem kwColon_run (k : String) : Run A [.kw k, .delim ":"] := .kw hA k (.colon hA .nil)

theorem casePatToks_run (t : PrecTable) (p : Pattern) (h : patOK p = true ∨ A .endStmt) : Run A (casePatToks t p) := by
  cases p with
  | matchSequence ps =>
    simp only [casePatToks]
    split
    · exact patToks_run hA t _ h
    · exact commaSep_run hA _ (patsToks_run hA t ps (h.imp_left (by simp [patOK])))
  | _ => exact patToks_run hA t _ h

theorem typeParamToks_run (t : PrecTable) (tp : TypeParam) : Run A (typeParamToks t tp) := by
  have opt : ∀ (s : String) (o : Option Expr), s ≠ "(" ∧ s ≠ ")" ∧ s ≠ "[" ∧ s ≠ "]" ∧ s ≠ "{" ∧ s ≠ "}" →
      Run A (match o with | some x => .delim s :: tExpr t x | none => []) := fun s o hs => by
    cases o
    · exact .nil
    · exact .sym hA s hs (tExpr_run hA t _)
  cases tp with
  | typeVar n b d => exact .ident hA n ((opt ":" b (by simp)).append (opt "=" d (by simp)))
  | typeVarTuple n d => exact .op hA _ (.ident hA n (opt "=" d (by simp)))
  | paramSpec n d => exact .op hA _ (.op hA _ (.ident hA n (opt "=" d (by simp))))

theorem typeParamsToks_run (t : PrecTable) (tps : List TypeParam) : Run A (typeParamsToks t tps) := by
  unfold typeParamsToks
  split
  · exact Run.nil
  · exact Run.brack hA (commaSep_run hA _ (.map _ _ (typeParamToks_run hA t)))

theorem hdrDef_run (t : PrecTable) (a : Bool) (n : String) (args : Arguments) (r : Option Expr) (tps : List TypeParam) :
    Run A (hdrDef t a n args r tps) := by
  have core {ys : List Tok} (hy : Run A ys) := async_run hA a (.kw hA "def" (.ident hA n ((typeParamsToks_run hA t tps).append
    ((Run.paren hA (flatArguments_run hA (parenArguments t args))).append hy))))
  cases r with
  | none => simpa [hdrDef, List.append_assoc] using core (.colon hA .nil)
  | some x => simpa [hdrDef, List.append_assoc] using core (.sym hA "->" (by simp) ((tExpr_run hA t x).append (.colon hA .nil)))

theorem hdrClass_run (t : PrecTable) (n : String) (bases : List Expr) (kws : List Keyword) (tps : List TypeParam) :
    Run A (hdrClass t n bases kws tps) := by
  have h1 : RunAll A (bases.map (tExpr t) ++ kws.map (tKeyword t)) := (map_tExpr_run hA t bases).append (.map _ _ fun
    | .mk none v => .op hA _ (tExpr_run hA t v)
    | .mk (some _) v => .ident hA _ (.eq hA (tExpr_run hA t v)))
  have h2 := Run.kw hA "class" (.ident hA n (typeParamsToks_run hA t tps))
  unfold hdrClass
  simp only
  split
  · exact (h2.append .nil).append (.colon hA .nil)
  · exact (h2.append (.paren hA (commaSep_run hA _ h1))).append (.colon hA .nil)

theorem hdrFor_run (t : PrecTable) (a : Bool) (tg it : Expr) : Run A (hdrFor t a tg it) := by
  simpa [hdrFor, List.append_assoc] using
    async_run hA a (.kw hA "for" ((tExpr_run hA t tg).append (.kw hA "in" ((tExpr_run hA t it).append (.colon hA .nil)))))

theorem withItemToks_run (t : PrecTable) (w : WithItem) : Run A (withItemToks t w) := by
  unfold withItemToks
  cases w.optionalVars with
  | none => exact (tExpr_run hA t w.contextExpr).append .nil
  | some v => exact (tExpr_run hA t w.contextExpr).append (.kw hA _ (tExpr_run hA t v))

theorem withItemsToks_run (t : PrecTable) (items : List WithItem) : Run A (withItemsToks t items) := by
  unfold withItemsToks
  split
  · split
    · exact Run.paren hA (withItemToks_run hA t _)
    · exact withItemToks_run hA t _
  · exact commaSep_run hA _ (.map _ _ (withItemToks_run hA t))

theorem hdrWith_run (t : PrecTable) (a : Bool) (items : List WithItem) : Run A (hdrWith t a items) := by
  simpa [hdrWith, List.append_assoc] using async_run hA a (.kw hA "with" ((withItemsToks_run hA t items).append (.colon hA .nil)))

theorem hdrExcept_run (t : PrecTable) (star : Bool) (ty : Option Expr) (name : Option String) : Run A (hdrExcept t star ty name) := by
  have hs : Run A (if star then [Tok.op "*"] else []) := by
    cases star with
    | false => exact .nil
    | true => exact .op hA _ .nil
  have h1 := (Run.kw hA "except" hs).append (tOptExpr_run hA t ty)
  cases name with
  | none => exact (h1.append .nil).append (.colon hA .nil)
  | some x => exact (h1.append (.kw hA "as" (.ident hA x .nil))).append (.colon hA .nil)

theorem hdrCase_run (t : PrecTable) (pat : Pattern) (guard : Option Expr) (h : patOK pat = true ∨ A .endStmt) : Run A (hdrCase t pat guard) := by
  have h1 := Run.kw hA "case" (casePatToks_run hA t pat h)
  cases guard with
  | none => exact (h1.append .nil).append (.colon hA .nil)
  | some g => exact (h1.append (.kw hA "if" (tExpr_run hA t g))).append (.colon hA .nil)

theorem tAlias_run (a : Alias) : Run A (tAlias a) := by
  unfold tAlias
  cases a.asname with
  | none => exact Run.tok hA _ rfl nofun .nil
  | some n => exact Run.ident hA _ (Run.kw hA _ (Run.ident hA _ Run.nil))

theorem idents_run (ns : List String) : Run A (commaSep (ns.map fun n => [Tok.ident n])) :=
  commaSep_run hA _ (.map _ _ fun _ => .tok hA _ rfl nofun .nil)

theorem targets_run (t : PrecTable) (ts : List Expr) : Run A (ts.flatMap fun tg => tTestlist t tg ++ [Tok.delim "="]) := by
  induction ts with
  | nil => exact Run.nil
  | cons a as ih =>
    simp only [List.flatMap_cons]
    exact Run.append (Run.append (tTestlist_run hA t a) (Run.eq hA Run.nil)) ih

theorem replicate_dot_run (l : Nat) : Run A (List.replicate l (Tok.delim ".")) := by
  induction l with
  | zero => exact Run.nil
  | succ k ih => simp only [List.replicate_succ]; exact Run.dot hA ih

theorem simpleToks_run (t : PrecTable) (st : StmtTable) (s : Stmt) (hc : isCompoundSyn s = false) (h : simpleOK t s = true ∨ A .endStmt) :
    Run A (simpleToks t st s) := by
  have key {xs : List Tok} (hx : Run A xs) (e : stmtToks t st s = xs ++ [.endStmt]) : Run A (simpleToks t st s) := by
    rw [simpleToks_of_eq e]; exact hx
  cases s with
  | functionDef | classDef | for_ | while_ | if_ | with_ | match_ | try_ => cases hc
  | return_ v =>
    cases v with
    | none => exact key (.kw hA "return" .nil) rfl
    | some e => exact key (.kw hA "return" (tTestlist_run hA t e)) rfl
  | delete ts => exact key (.kw hA "del" (commaSep_run hA _ (map_tExpr_run hA t ts))) rfl
  | assign ts v => exact key ((targets_run hA t ts).append (tValue_run hA t v)) rfl
  | typeAlias n tps v =>
    exact key (((Run.kw hA "type" (tVisit_run hA t n (h.imp_left (by simp [simpleOK])))).append (typeParamsToks_run hA t tps)).append
      (.eq hA (tExpr_run hA t v))) rfl
  | augAssign tg op v =>
    exact key ((tTestlist_run hA t tg).append ((binOpTok_run hA op).append (.eq hA (tValue_run hA t v)))) rfl
  | annAssign tg ann v sm =>
    have htg : Run A (if sm then tVisit t tg else Tok.delim "(" :: tExpr t tg ++ [Tok.delim ")"]) := by
      cases sm with
      | true => exact tVisit_run hA t tg (h.imp_left (by simp [simpleOK]))
      | false => exact .paren hA (tExpr_run hA t tg)
    cases v with
    | none => exact key ((htg.append (.colon hA (tExpr_run hA t ann))).append .nil) rfl
    | some e => exact key ((htg.append (.colon hA (tExpr_run hA t ann))).append (.eq hA (tExpr_run hA t e))) rfl
  | raise_ e c =>
    cases c with
    | none => exact key ((Run.kw hA "raise" (tOptExpr_run hA t e)).append .nil) rfl
    | some x => exact key ((Run.kw hA "raise" (tOptExpr_run hA t e)).append (.kw hA "from" (tExpr_run hA t x))) rfl
  | assert_ c m =>
    cases m with
    | none => exact key ((Run.kw hA "assert" (tExpr_run hA t c)).append .nil) rfl
    | some x => exact key ((Run.kw hA "assert" (tExpr_run hA t c)).append (.comma hA (tExpr_run hA t x))) rfl
  | import_ ns => exact key (.kw hA "import" (commaSep_run hA _ (.map tAlias ns (tAlias_run hA)))) rfl
  | importFrom m ns l =>
    have h1 : Run A (commaSep (ns.map fun a => if a.name == "*" then [Tok.op "*"] else tAlias a)) :=
      commaSep_run hA _ (.map _ ns fun a => by
        split
        · exact .tok hA _ rfl nofun .nil
        · exact tAlias_run hA a)
    cases m with
    | none => exact key (((Run.kw hA "from" (replicate_dot_run hA l)).append .nil).append (.kw hA "import" h1)) rfl
    | some x => exact key (((Run.kw hA "from" (replicate_dot_run hA l)).append (.ident hA x .nil)).append (.kw hA "import" h1)) rfl
  | global ns => exact key (.kw hA "global" (idents_run hA ns)) rfl
  | nonlocal ns => exact key (.kw hA "nonlocal" (idents_run hA ns)) rfl
  | expr v => exact key (tValue_run hA t v) rfl
  | pass => exact key (.kw hA "pass" .nil) rfl
  | break_ => exact key (.kw hA "break" .nil) rfl
  | continue_ => exact key (.kw hA "continue" .nil) rfl
end

theorem tExpr_nlay (t : PrecTable) (e : Expr) : nlay (tExpr t e) = true := flat_nlay _
theorem orItems_nlay (t : PrecTable) : (ps : List Pattern) → patsOK ps = true → nlayAll (orItems t ps) = true :=
  fun ps h => (orItems_run .real t ps (.inl h)).nlayAll
theorem orItems_bal (t : PrecTable) : (ps : List Pattern) → BalAll (orItems t ps) := fun ps => (orItems_run .any t ps (.inr trivial)).balAll

end PMV.Spec.Layout
