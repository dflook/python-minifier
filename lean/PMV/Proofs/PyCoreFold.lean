import PMV.Proofs.PyCoreEqns
import PMV.Proofs.Fold
/-
  A folding step preserves the value (or exception) of every binary operation the core gives one to (`fold_step`), for *any*
  oracle: of the operands folding looks at (`operandVal`: None, bool, int, float, complex) the core computes with int and bool
  only, by `PyInt.eval` as the folding model does.  `homo_evalE` lifts such a step through any rewrite that is a homomorphism
  on the other core constructors.
-/
namespace PMV.PyCore
open PMV PMV.Fold PMV.Printer PMV.Token

def litVal : FVal → Option Val
  | .none => some .none
  | .bool b => some (.bool b)
  | .int n => some (.int n)
  | _ => none

theorem evalE_operand (s : St) (e : Expr) (lv : FVal) (h : operandVal e = some lv) :
    evalE s e = (litVal lv).map Except.ok := by
  cases e with
  | constant c =>
    cases c <;> simp [operandVal] at h <;> subst h <;> simp [evalE, litVal]
  | _ => simp [operandVal] at h

theorem pyOp_opOf (op : BinOpK) (o : PyInt.Op) (h : pyOp op = some o) : o = opOf op := by
  cases op <;> simp [pyOp] at h <;> subst h <;> rfl

theorem binVal_none_left (b : Val) (op : BinOpK) : binVal .none b op = none := rfl

theorem binVal_none_right (a : Val) (op : BinOpK) : binVal a .none op = none := by
  cases a <;> rfl

/-- the PyCore value of what `Fold.evalBin` answers for int-like operands (the same case split) -/
def foldVal (ab bb : Bool) (op : BinOpK) (w : Int) : Val :=
  if ab && bb && isBitwise op then .bool (w != 0) else .int w

/-- past its special cases (strings; two Booleans under a bitwise operator) `binVal` is `PyInt.eval` on the `asInt` views -/
theorem binVal_asInt {a b : Val} {op : BinOpK} {x y w : Int} (ha : a.asInt = some x) (hb : b.asInt = some y)
    (h : (match a, b with | .bool _, .bool _ => isBitwise op | _, _ => false) = false)
    (hw : PyInt.eval (opOf op) x y = some w) : binVal a b op ≠ none → binVal a b op = some (.ok (.int w)) := by
  unfold binVal
  split
  · cases ha
  · cases h
  · cases h
  · cases h
  · rw [ha, hb]
    cases ho : pyOp op with
    | none => exact fun hne => absurd rfl hne
    | some o => cases pyOp_opOf op o ho; intro _; simp only [hw]

theorem binVal_lit (lv rv : FVal) (va vb : Val) (op : BinOpK) (hva : litVal lv = some va) (hvb : litVal rv = some vb)
    (hne : binVal va vb op ≠ none) :
    ∃ a ab b bb, intLike lv = some (a, ab) ∧ intLike rv = some (b, bb) ∧
      ∀ w, PyInt.eval (opOf op) a b = some w → binVal va vb op = some (.ok (foldVal ab bb op w)) := by
  cases lv <;> simp [litVal] at hva <;> subst hva <;> cases rv <;> simp [litVal] at hvb <;> subst hvb
  case none.none | none.bool | none.int => exact absurd (binVal_none_left _ op) hne
  case bool.none | int.none => exact absurd (binVal_none_right _ op) hne
  case bool.bool x y =>
    refine ⟨_, _, _, _, rfl, rfl, fun w hw => ?_⟩
    cases op with
    | bitAnd | bitOr | bitXor => cases x <;> cases y <;> cases hw <;> rfl   -- both sides are the Boolean operation
    | _ => exact binVal_asInt rfl rfl rfl hw hne
  all_goals exact ⟨_, _, _, _, rfl, rfl, fun w hw => binVal_asInt rfl rfl rfl hw hne⟩

theorem evalE_newNode (s : St) (orc : Oracle) : ∀ (v : FVal) (nn : Expr), newNode orc v = some nn →
    ∀ va, litVal v = some va → evalE s nn = some (.ok va) :=
  newNode_cases orc (P := fun v nn => ∀ va, litVal v = some va → evalE s nn = some (.ok va))
    (fun b _ h => by cases h; cases b <;> simp [evalE]) (fun _ _ _ h => by cases h; simp [evalE, Val.asInt])
    (fun _ _ _ h => by cases h; simp [evalE]) (fun _ _ h => by cases h) (fun _ _ h => by cases h)
    (fun _ _ _ _ _ _ h => by cases h) (fun _ _ h => by cases h)

theorem litVal_foldVal (ab bb : Bool) (op : BinOpK) (w : Int) :
    litVal (if ab && bb && isBitwise op then FVal.bool (w != 0) else FVal.int w) = some (foldVal ab bb op w) := by
  unfold foldVal; split <;> rfl

theorem fold_step (t : PrecTable) (sp : Spacing) (orc : Oracle) (s : St) (l : Expr) (op : BinOpK) (r : Expr)
    (hne : evalE s (.binOp l op r) ≠ none) :
    evalE s (foldBinOp t sp orc l op r) = evalE s (.binOp l op r) := by
  refine foldBinOp_cases (P := fun x => evalE s x = evalE s (.binOp l op r)) t sp orc l op r rfl
    fun lv rv v nn hl hr _ _ hev _ hnn _ _ => ?_
  rw [evalE_binOp, evalE_operand s l lv hl, evalE_operand s r rv hr] at hne ⊢
  cases hva : litVal lv with
  | none => rw [hva] at hne; exact absurd rfl hne
  | some va =>
    cases hvb : litVal rv with
    | none => rw [hva, hvb] at hne; exact absurd rfl hne
    | some vb =>
      rw [hva, hvb] at hne
      obtain ⟨a, ab, b, bb, hil, hir, hbin⟩ := binVal_lit lv rv va vb op hva hvb hne
      simp only [evalBin, hil, hir] at hev
      cases hw : PyInt.eval (opOf op) a b with
      | none => rw [hw] at hev; cases hev
      | some w =>
        rw [hw] at hev
        cases (apply_ite some ..).trans hev
        rw [evalE_newNode s orc _ _ hnn _ (litVal_foldVal ab bb op w)]
        exact (hbin w hw).symm

/-! what else a node rewrite has to satisfy (`StepOK` in PyCoreInst): its result looks like a binary operation to every
    view of the syntax, and it is a core expression exactly when the operands are -/

theorem newNode_shape (orc : Oracle) : ∀ (v : FVal) (nn : Expr), newNode orc v = some nn →
    (∃ c, nn = .constant c) ∨ ∃ c, nn = .unaryOp .uSub (.constant c) :=
  newNode_cases orc (P := fun _ nn => (∃ c, nn = .constant c) ∨ ∃ c, nn = .unaryOp .uSub (.constant c))
    (fun _ => .inl ⟨_, rfl⟩) (fun _ _ => .inr ⟨_, rfl⟩) (fun _ _ => .inl ⟨_, rfl⟩) (fun _ => .inr ⟨_, rfl⟩)
    (fun _ => .inl ⟨_, rfl⟩) (fun _ _ _ _ _ => .inr ⟨_, rfl⟩) (fun _ => .inl ⟨_, rfl⟩)

theorem foldBinOp_shape (t : PrecTable) (sp : Spacing) (orc : Oracle) (l : Expr) (op : BinOpK) (r : Expr) :
    foldBinOp t sp orc l op r = .binOp l op r ∨ (∃ c, foldBinOp t sp orc l op r = .constant c) ∨
      (∃ c, foldBinOp t sp orc l op r = .unaryOp .uSub (.constant c)) := by
  exact foldBinOp_cases (P := fun x => x = .binOp l op r ∨ (∃ c, x = .constant c) ∨ ∃ c, x = .unaryOp .uSub (.constant c))
    t sp orc l op r (.inl rfl) fun _ _ v nn _ _ _ _ _ _ hnn _ _ => .inr (newNode_shape orc v nn hnn)

theorem foldKeywords_nil (t : PrecTable) (sp : Spacing) (orc : Oracle) (ks : List Keyword) (h : foldKeywords t sp orc ks = []) : ks = [] := by
  cases ks with
  | nil => rfl
  | cons k rest => cases k; simp [foldKeywords] at h

theorem operandVal_core (e : Expr) (v : FVal) (h : operandVal e = some v) : coreE e = true := by
  cases e with
  | constant => rfl
  | _ => cases h

theorem foldBinOp_core (t : PrecTable) (sp : Spacing) (orc : Oracle) (l : Expr) (op : BinOpK) (r : Expr) :
    coreE (foldBinOp t sp orc l op r) = (coreE l && coreE r) := by
  refine foldBinOp_cases (P := fun x => coreE x = (coreE l && coreE r)) t sp orc l op r rfl
    fun lv rv v nn hl hr _ _ _ _ hnn _ _ => ?_
  rw [operandVal_core l lv hl, operandVal_core r rv hr]
  rcases newNode_shape orc v nn hnn with ⟨c, rfl⟩ | ⟨c, rfl⟩ <;> rfl

structure Homo (g : Expr → Expr) (stepB : Expr → BinOpK → Expr → Expr) : Prop where
  const : ∀ c, g (.constant c) = .constant c
  name : ∀ x c, g (.name x c) = .name x c
  unary : ∀ op v, g (.unaryOp op v) = .unaryOp op (g v)
  binOp : ∀ l op r, g (.binOp l op r) = stepB (g l) op (g r)
  compare1 : ∀ l op r, g (.compare l [op] [r]) = .compare (g l) [op] [g r]
  boolOp2 : ∀ op a b, g (.boolOp op [a, b]) = .boolOp op [g a, g b]
  ifExp : ∀ c a b, g (.ifExp c a b) = .ifExp (g c) (g a) (g b)
  step : ∀ s l op r, evalE s (.binOp l op r) ≠ none → evalE s (stepB l op r) = evalE s (.binOp l op r)

theorem evalBind_congr {r r' : Option (Except String Val)} {k k' : Val → Option (Except String Val)}
    (h : evalBind r k ≠ none) (hr : r ≠ none → r' = r) (hk : ∀ v, k v ≠ none → k' v = k v) :
    evalBind r' k' = evalBind r k := by
  cases r with
  | none => exact absurd rfl h
  | some x =>
    rw [hr (by simp)]
    cases x with
    | error e => rfl
    | ok v => exact hk v h

theorem ite_congr_ne {c : Bool} {x x' y y' : Option (Except String Val)} (h : (if c then x else y) ≠ none)
    (hx : x ≠ none → x' = x) (hy : y ≠ none → y' = y) : (if c then x' else y') = if c then x else y := by
  cases c with
  | false => exact hy h
  | true => exact hx h

theorem homo_evalE (g : Expr → Expr) (stepB : Expr → BinOpK → Expr → Expr) (hg : Homo g stepB) (s : St) :
    (e : Expr) → evalE s e ≠ none → evalE s (g e) = evalE s e
  | .constant c => fun _ => by rw [hg.const]
  | .name x c => fun _ => by rw [hg.name]
  | .unaryOp .not_ v => fun h => by
    rw [hg.unary, evalE_not, evalE_not] at *
    exact evalBind_congr h (homo_evalE g stepB hg s v) fun _ _ => rfl
  | .unaryOp .uSub v => fun h => by
    rw [hg.unary, evalE_uSub, evalE_uSub] at *
    exact evalBind_congr h (homo_evalE g stepB hg s v) fun _ _ => rfl
  | .unaryOp .invert _ | .unaryOp .uAdd _ => fun h => by simp [evalE] at h
  | .binOp l op r => fun h => by
    rw [hg.binOp]
    have hcong : evalE s (.binOp (g l) op (g r)) = evalE s (.binOp l op r) := by
      rw [evalE_binOp] at h
      rw [evalE_binOp, evalE_binOp]
      exact evalBind_congr h (homo_evalE g stepB hg s l) fun _ ha =>
        evalBind_congr ha (homo_evalE g stepB hg s r) fun _ _ => rfl
    rw [hg.step s _ op _ (by rw [hcong]; exact h), hcong]
  | .compare l [op] [r] => fun h => by
    rw [evalE_compare1] at h
    rw [hg.compare1, evalE_compare1, evalE_compare1]
    exact evalBind_congr h (homo_evalE g stepB hg s l) fun _ ha =>
      evalBind_congr ha (homo_evalE g stepB hg s r) fun _ _ => rfl
  | .compare _ [] _ | .compare _ [_] [] | .compare _ [_] (_ :: _ :: _) | .compare _ (_ :: _ :: _) _ => fun h => by
    simp [evalE] at h
  | .boolOp .and_ [a, b] => fun h => by
    rw [evalE_and] at h
    rw [hg.boolOp2, evalE_and, evalE_and]
    exact evalBind_congr h (homo_evalE g stepB hg s a) fun _ hv => ite_congr_ne hv (homo_evalE g stepB hg s b) fun _ => rfl
  | .boolOp .or_ [a, b] => fun h => by
    rw [evalE_or] at h
    rw [hg.boolOp2, evalE_or, evalE_or]
    exact evalBind_congr h (homo_evalE g stepB hg s a) fun _ hv => ite_congr_ne hv (fun _ => rfl) (homo_evalE g stepB hg s b)
  | .boolOp op [] | .boolOp op [_] | .boolOp op (_ :: _ :: _ :: _) => fun h => by cases op <;> simp [evalE] at h
  | .ifExp c a b => fun h => by
    rw [evalE_ifExp] at h
    rw [hg.ifExp, evalE_ifExp, evalE_ifExp]
    exact evalBind_congr h (homo_evalE g stepB hg s c) fun _ hv =>
      ite_congr_ne hv (homo_evalE g stepB hg s a) (homo_evalE g stepB hg s b)
  | .namedExpr .. | .lambda .. | .dict .. | .set _ | .listComp .. | .setComp .. | .dictComp ..
  | .generatorExp .. | .await .. | .yield .. | .yieldFrom .. | .call .. | .joinedStr .. | .attribute ..
  | .subscript .. | .starred .. | .list .. | .tuple .. | .slice .. | .paren .. => fun h => absurd (evalE_nonCore s _ rfl) h

end PMV.PyCore
