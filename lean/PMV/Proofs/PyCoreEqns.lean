import PMV.Spec.PyCore
/-
  One equation per statement form, through a few combinators (`Res.andThen`, `Res.loopStep`, `tick`, `valThen`, `callRet`), so
  that no simulation proof unfolds `exec1`.  `BlockInd` is the structural half of the interpreter's recursion; the other
  half, on fuel, is done once in `Sim1.while_`, `execFor_sim` and `SimTree.all`.
-/
namespace PMV.PyCore
open PMV

variable {o : Bool}

theorem Env.get_set (l : Env) (k k' : String) (v : Val) :
    Env.get (Env.set l k v) k' = if k' == k then some v else Env.get l k' := by
  induction l with
  | nil => simp only [Env.set, Env.get, List.lookup]; cases k' == k <;> rfl
  | cons p rest ih =>
    simp only [Env.get] at ih
    simp only [Env.set, Env.get]
    split
    · next hy =>
      rw [beq_iff_eq] at hy; subst hy
      simp only [List.lookup]; cases k' == p.1 <;> rfl
    · next hy =>
      simp only [List.lookup, ih]
      cases hk : k' == p.1
      · rfl
      · rw [beq_iff_eq] at hk; subst hk; exact (if_neg hy).symm

theorem isLocal_assign (s : St) (x y : String) (v : Val) : (s.assign x v).isLocal y = s.isLocal y := by
  unfold St.assign
  split
  · unfold St.isLocal; cases s.locals <;> rfl
  · rfl

theorem out_assign (s : St) (x : String) (v : Val) : (s.assign x v).out = s.out := by
  unfold St.assign; split <;> rfl

theorem imports_assign (s : St) (x : String) (v : Val) : (s.assign x v).imports = s.imports := by
  unfold St.assign; split <;> rfl

theorem isSome_assign (s : St) (x : String) (v : Val) : (s.assign x v).locals.isSome = s.locals.isSome := by
  unfold St.assign; split
  · simp only [Option.isSome_map]
  · rfl

theorem globals_assign (s : St) (x : String) (v : Val) :
    (s.assign x v).globals = if s.isLocal x then s.globals else s.globals.set x v := by
  unfold St.assign; split <;> rfl

theorem locals_assign (s : St) (x : String) (v : Val) :
    (s.assign x v).locals = if s.isLocal x then s.locals.map (fun l => l.set x v) else s.locals := by
  unfold St.assign; split <;> rfl

theorem lget_assign (s : St) (x y : String) (v : Val) :
    (s.assign x v).locals.bind (fun l => l.get y) =
      if s.isLocal x && y == x then some v else s.locals.bind (fun l => l.get y) := by
  rw [locals_assign]
  by_cases hl : s.isLocal x = true
  · simp only [hl, if_true, Bool.true_and]
    cases hs : s.locals with
    | none => unfold St.isLocal at hl; simp [hs] at hl
    | some l => simp only [Option.map_some, Option.bind_some, Env.get_set]
  · simp [hl]

def isCoreHead : Expr → Bool
  | .constant _ | .name .. | .unaryOp .. | .binOp .. | .compare .. | .boolOp .. | .ifExp .. => true
  | _ => false

theorem evalE_nonCore (s : St) : (e : Expr) → isCoreHead e = false → evalE s e = none
  | .constant _ | .name .. | .unaryOp .. | .binOp .. | .compare .. | .boolOp .. | .ifExp .. => fun h => nomatch h
  | .call .. | .tuple .. | .namedExpr .. | .lambda .. | .dict .. | .set _ | .listComp .. | .setComp ..
  | .dictComp .. | .generatorExp .. | .await .. | .yield .. | .yieldFrom .. | .joinedStr .. | .attribute ..
  | .subscript .. | .starred .. | .list .. | .slice .. | .paren .. => fun _ => rfl

theorem evalE_nonCore_map {τ : Expr → Expr} (hτ : ∀ e, isCoreHead (τ e) = isCoreHead e) (s s' : St) (e : Expr)
    (h : isCoreHead e = false) : evalE s' (τ e) = evalE s e :=
  (evalE_nonCore s' _ ((hτ e).trans h)).trans (evalE_nonCore s e h).symm

def evalBind (r : Option (Except String Val)) (k : Val → Option (Except String Val)) : Option (Except String Val) :=
  match r with
  | some (.ok v) => k v
  | r => r

theorem evalE_not (s : St) (e : Expr) : evalE s (.unaryOp .not_ e) = evalBind (evalE s e) fun v => some (.ok (.bool (!v.truthy))) := by
  rw [evalE]; rfl

theorem evalE_uSub (s : St) (e : Expr) :
    evalE s (.unaryOp .uSub e) = evalBind (evalE s e) fun v =>
      match v.asInt with | some n => some (.ok (.int (-n))) | none => some (.error "TypeError") := by
  rw [evalE]; rfl

theorem evalE_binOp (s : St) (l : Expr) (op : BinOpK) (r : Expr) :
    evalE s (.binOp l op r) = evalBind (evalE s l) fun a => evalBind (evalE s r) fun b => binVal a b op := by
  rw [evalE]; rfl

theorem evalE_compare1 (s : St) (l : Expr) (op : CmpOpK) (r : Expr) :
    evalE s (.compare l [op] [r]) = evalBind (evalE s l) fun a => evalBind (evalE s r) fun b => cmpVal a b op := by
  rw [evalE]; rfl

theorem evalE_and (s : St) (a b : Expr) :
    evalE s (.boolOp .and_ [a, b]) = evalBind (evalE s a) fun v => if v.truthy then evalE s b else some (.ok v) := by
  rw [evalE]; rfl

theorem evalE_or (s : St) (a b : Expr) :
    evalE s (.boolOp .or_ [a, b]) = evalBind (evalE s a) fun v => if v.truthy then some (.ok v) else evalE s b := by
  rw [evalE]; rfl

theorem evalE_ifExp (s : St) (c a b : Expr) :
    evalE s (.ifExp c a b) = evalBind (evalE s c) fun v => if v.truthy then evalE s a else evalE s b := by
  rw [evalE]; rfl

theorem evalBind_ok {r : Option (Except String Val)} {k : Val → Option (Except String Val)} {v : Val}
    (h : evalBind r k = some (.ok v)) : ∃ a, r = some (.ok a) ∧ k a = some (.ok v) := by
  cases r with
  | none => cases h
  | some x =>
    cases x with
    | error e => cases h
    | ok a => exact ⟨a, rfl, h⟩

/-! `printArgs`, `callOf`, `forRange`, `assignTarget`, `raiseName` all factor through `nameOf` and `asNameCall`: a translation
has to be looked at for these two only. -/

def asNameCall : Expr → Option (String × Ctx × List Expr)
  | .call (.name g c) args [] => some (g, c, args)
  | _ => none

theorem asNameCall_some (e : Expr) (g : String) (c : Ctx) (args : List Expr) (h : asNameCall e = some (g, c, args)) :
    e = .call (.name g c) args [] := by
  unfold asNameCall at h
  split at h
  · cases h; rfl
  · cases h

theorem nameOf_some (e : Expr) (x : String) (c : Ctx) (h : nameOf e = some (x, c)) : e = .name x c := by
  cases e <;> simp [nameOf] at h
  obtain ⟨h1, h2⟩ := h; subst h1; subst h2; rfl

/-- `asNameCall` through `nameOf`: a translation of a call is looked at for the callee's name and the keywords only -/
theorem asNameCall_call (f : Expr) (args : List Expr) (kws : List Keyword) :
    asNameCall (.call f args kws) = (match nameOf f, kws with | some (g, c), [] => some (g, c, args) | _, _ => none) := by
  cases f <;> cases kws <;> rfl

theorem assignTarget_eq (ts : List Expr) :
    assignTarget ts = (match ts with | [e] => (nameOf e).map Prod.fst | _ => none) := by
  match ts with
  | [] => rfl
  | [e] => cases e <;> rfl
  | a :: b :: r => cases a <;> simp [assignTarget]

theorem assignTarget_some (ts : List Expr) (x : String) (h : assignTarget ts = some x) : ∃ c, ts = [.name x c] := by
  unfold assignTarget at h
  split at h
  · cases h; exact ⟨_, rfl⟩
  · cases h

theorem printArgs_eq (e : Expr) :
    printArgs e = (asNameCall e).bind (fun p => if p.1 == "print" then some p.2.2 else none) := by
  unfold printArgs asNameCall
  split <;> simp_all

theorem callOf_expr_eq (e : Expr) :
    callOf (.expr e) = (asNameCall e).bind (fun p => if p.1 == "print" then none else some (p.1, p.2.2, none)) := by
  unfold callOf asNameCall
  split <;> simp_all

theorem callOf_assign_eq (ts : List Expr) (v : Expr) :
    callOf (.assign ts v) = (assignTarget ts).bind (fun x => (asNameCall v).map (fun p => (p.1, p.2.2, some x))) := by
  unfold callOf
  split
  · rename_i h; cases h
  · rename_i h; cases h; rfl
  · -- no pattern of `callOf` matched: by the inversion lemmas one of the two sides is `none`
    rename_i h1 h2
    cases ht : assignTarget ts with
    | none => rfl
    | some x =>
      cases hc : asNameCall v with
      | none => rfl
      | some p =>
        obtain ⟨g, c, args⟩ := p
        obtain ⟨c', rfl⟩ := assignTarget_some ts x ht
        rw [asNameCall_some v g c args hc] at h2
        exact absurd rfl (h2 _ _ _ _ _)

theorem forRange_eq (tg it : Expr) :
    forRange tg it = (match nameOf tg, asNameCall it with
      | some (x, _), some (f, _, [e]) => if f == "range" then some (x, e) else none
      | _, _ => none) := by
  unfold forRange
  split
  · rfl
  · rename_i h
    cases hn : nameOf tg with
    | none => rfl
    | some p =>
      obtain ⟨x, c⟩ := p
      cases hc : asNameCall it with
      | none => rfl
      | some q =>
        obtain ⟨f, c2, args⟩ := q
        match args with
        | [] => rfl
        | [e] => exact (h x c f c2 e (nameOf_some tg x c hn) (asNameCall_some it f c2 [e] hc)).elim
        | _ :: _ :: _ => rfl

/-- `raise … from c` is outside the core -/
theorem raiseName_from (e : Option Expr) (c : Expr) : raiseName e (some c) = none := by
  unfold raiseName; split <;> simp_all

theorem raiseName_eq (e c : Option Expr) :
    raiseName e c = (match e, c with
      | some x, none => (match nameOf x, asNameCall x with
          | some (n, _), _ => some n
          | none, some (n, _, []) => some n
          | _, _ => none)
      | _, _ => none) := by
  cases c with
  | some _ => rw [raiseName_from]; cases e <;> rfl
  | none =>
    cases e with
    | none => rfl
    | some x =>
      cases x with
      | call f args kws =>
        cases f with
        | name => cases args <;> cases kws <;> rfl
        | _ => rfl
      | _ => rfl

theorem callOf_some {st : Stmt} {f : String} {args : List Expr} {tgt : Option String} (h : callOf st = some (f, args, tgt)) :
    (∃ e c, st = .expr e ∧ asNameCall e = some (f, c, args) ∧ tgt = none) ∨
    (∃ ts v x c, st = .assign ts v ∧ assignTarget ts = some x ∧ asNameCall v = some (f, c, args) ∧ tgt = some x) := by
  unfold callOf at h
  split at h
  · split at h
    · cases h
    · cases h; exact .inl ⟨_, _, rfl, rfl, rfl⟩
  · cases h; exact .inr ⟨_, _, _, _, rfl, rfl, rfl, rfl⟩
  · cases h

theorem isDbgName_eq (e : Expr) : isDbgName e = (match nameOf e with | some (x, _) => x == "__debug__" | none => false) := by
  cases e <;> rfl

theorem debugCmp_compare (l : Expr) (ops : List CmpOpK) (cs : List Expr) :
    debugCmp (.compare l ops cs) =
      if isDbgName l then (match ops, cs with | [op], [e] => some (op, e) | _, _ => none) else none := by
  cases l with
  | name x c =>
    match ops, cs with
    | [op], [e] => rfl
    | [], _ | [_], [] | [_], _ :: _ :: _ | _ :: _ :: _, _ => exact (ite_self _).symm
  | _ => rfl

theorem debugCmp_map (τ : Expr → Expr) {l l' : Expr} (ops : List CmpOpK) (cs : List Expr) (h : isDbgName l' = isDbgName l) :
    debugCmp (.compare l' ops (cs.map τ)) = (debugCmp (.compare l ops cs)).map fun p => (p.1, τ p.2) := by
  rw [debugCmp_compare, debugCmp_compare, h]
  cases isDbgName l with
  | false => rfl
  | true =>
    match ops, cs with
    | [op], [e] => rfl
    | [], _ | [_], [] | [_], _ :: _ :: _ | _ :: _ :: _, _ => rfl

theorem coreX_eq (e : Expr) : coreX e = (match asNameCall e with | some p => p.2.2.all coreE | none => coreE e) := by
  unfold coreX asNameCall
  split <;> simp_all

def isTuple : Expr → Bool
  | .tuple _ => true
  | _ => false

theorem nameList_map (f : Expr → Expr) (hn : ∀ e, nameOf (f e) = nameOf e) : ∀ es : List Expr, nameList (es.map f) = nameList es
  | [] => rfl
  | e :: es => by simp [nameList, hn e, nameList_map f hn es]

theorem excKind_map (f : Expr → Expr) (hn : ∀ e, nameOf (f e) = nameOf e)
    (ht : ∀ es, f (.tuple es) = .tuple (es.map f)) (hnt : ∀ e, isTuple e = false → isTuple (f e) = false)
    (e : Expr) : excKind (some (f e)) = excKind (some e) := by
  cases he : isTuple e with
  | true =>
    cases e with
    | tuple es => rw [ht]; simp [excKind, nameList_map f hn es]
    | _ => simp [isTuple] at he
  | false =>
    have key : ∀ x : Expr, isTuple x = false → excKind (some x) = (match nameOf x with | some (n, _) => ExcPat.names [n] | none => ExcPat.unknown) := by
      intro x hx
      cases x with
      | tuple _ => simp [isTuple] at hx
      | _ => rfl
    rw [key e he, key (f e) (hnt e he), hn e]

def Res.andThen (r : Res Flow) (k : St → Res Flow) : Res Flow :=
  match r with
  | .ok (.normal s) => k s
  | r => r

def Res.loopStep (r : Res Flow) (next : St → Res Flow) : Res Flow :=
  match r with
  | .ok (.normal s) => next s
  | .ok (.continued s) => next s
  | .ok (.broke s) => .ok (.normal s)
  | r => r

def tick (n : Nat) (k : Nat → Res Flow) : Res Flow :=
  match n with
  | 0 => .timeout
  | f + 1 => k f

/-- `evalThen` for any evaluator -/
def valThen (r : Option (Except String Val)) (s : St) (k : Val → Res Flow) : Res Flow :=
  match r with
  | some (.ok v) => k v
  | some (.error x) => .raised x s
  | none => .stuck

theorem execL_nil (ft : FTab) (fuel : Nat) (s : St) : execL ⟨ft, o⟩ fuel s [] = .ok (.normal s) := by
  rw [execL]

theorem execL_cons (ft : FTab) (fuel : Nat) (s : St) (st : Stmt) (rest : List Stmt) :
    execL ⟨ft, o⟩ fuel s (st :: rest) =
      (match exec1 ⟨ft, o⟩ fuel s st with
       | .ok (.normal s') => execL ⟨ft, o⟩ fuel s' rest
       | r => r) := by
  rw [execL]; rfl

theorem Res.andThen_assoc (r : Res Flow) (k k' : St → Res Flow) :
    (r.andThen k).andThen k' = r.andThen fun s => (k s).andThen k' := by
  cases r with
  | ok fl => cases fl <;> rfl
  | _ => rfl

theorem execL_append (ft : FTab) (n : Nat) : ∀ (a b : List Stmt) (s : St),
    execL ⟨ft, o⟩ n s (a ++ b) = (execL ⟨ft, o⟩ n s a).andThen fun s' => execL ⟨ft, o⟩ n s' b
  | [], b, s => by rw [execL_nil]; rfl
  | st :: rest, b, s => by
    rw [List.cons_append, execL_cons, execL_cons]
    exact (congrArg (Res.andThen _) (funext (execL_append ft n rest b))).trans (Res.andThen_assoc _ _ _).symm

theorem execH_nil (ft : FTab) (n : Nat) (s : St) (x : String) : execH ⟨ft, o⟩ n s x [] = .raised x s := by
  rw [execH]

theorem execH_cons (ft : FTab) (n : Nat) (s : St) (x : String) (ty : Option Expr) (nm : Option String) (hb : List Stmt)
    (rest : List Handler) :
    execH ⟨ft, o⟩ n s x (.mk ty nm hb :: rest) =
      (match catches (excKind ty) nm x with
       | some true => execL ⟨ft, o⟩ n s hb
       | some false => execH ⟨ft, o⟩ n s x rest
       | none => .stuck) := by
  rw [execH]; rfl

theorem exec1_if (ft : FTab) (n : Nat) (s : St) (c : Expr) (b e : List Stmt) :
    exec1 ⟨ft, o⟩ n s (.if_ c b e) =
      valThen (condE o s c) s (fun v => if v.truthy then execL ⟨ft, o⟩ n s b else execL ⟨ft, o⟩ n s e) := by
  rw [exec1]; rfl

theorem exec1_while (ft : FTab) (n : Nat) (s : St) (c : Expr) (b e : List Stmt) :
    exec1 ⟨ft, o⟩ n s (.while_ c b e) =
      valThen (evalE s c) s (fun v =>
        if v.truthy then
          tick n (fun f => (execL ⟨ft, o⟩ (f + 1) s b).loopStep (fun s' => exec1 ⟨ft, o⟩ f s' (.while_ c b e)))
        else execL ⟨ft, o⟩ n s e) := by
  cases n <;> rw [exec1] <;> rfl

theorem exec1_for (ft : FTab) (n : Nat) (s : St) (tg it : Expr) (b e : List Stmt) :
    exec1 ⟨ft, o⟩ n s (.for_ false tg it b e) =
      (match forRange tg it with
       | some (x, bound) =>
         valThen (evalE s bound) s (fun v =>
           match v.asInt with
           | some k => execFor ⟨ft, o⟩ n s x 0 k b e
           | none => .stuck)
       | none => .stuck) := by
  rw [exec1]; rfl

theorem execFor_eq (ft : FTab) (n : Nat) (s : St) (x : String) (i k : Int) (b e : List Stmt) :
    execFor ⟨ft, o⟩ n s x i k b e =
      if i < k then
        tick n (fun f => (execL ⟨ft, o⟩ (f + 1) (s.assign x (.int i)) b).loopStep (fun s' => execFor ⟨ft, o⟩ f s' x (i + 1) k b e))
      else execL ⟨ft, o⟩ n s e := by
  cases n <;> rw [execFor] <;> rfl

theorem exec1_try (ft : FTab) (n : Nat) (s : St) (b : List Stmt) (hs : List Handler) (e f : List Stmt) :
    exec1 ⟨ft, o⟩ n s (.try_ false b hs e f) =
      withFinally
        (afterBody (execL ⟨ft, o⟩ n s b) (fun s1 => execL ⟨ft, o⟩ n s1 e) (fun x s1 => execH ⟨ft, o⟩ n s1 x hs))
        (fun s1 => execL ⟨ft, o⟩ n s1 f) := by
  rw [exec1]

theorem withFinally_eq (r1 : Res Flow) (f : St → Res Flow) :
    withFinally r1 f = match stateOf? r1 with | none => r1 | some s1 => (f s1).andThen (resume r1) := rfl

/-- the statements whose blocks the interpreter enters -/
def isBlockStmt : Stmt → Bool
  | .if_ .. => true
  | .while_ .. => true
  | .try_ false .. => true
  | .for_ false .. => true
  | _ => false

def flatExec (env : RunEnv) (fuel : Nat) (s : St) (st : Stmt) : Res Flow :=
  if env.opt && isAssertStmt st then .ok (.normal s)
  else match callOf st with
    | some (f, args, target) => callFn env fuel s f args target
    | none => simpleExec s st

theorem exec1_flat (ft : FTab) (fuel : Nat) (s : St) : (st : Stmt) → isBlockStmt st = false →
    exec1 ⟨ft, o⟩ fuel s st = flatExec ⟨ft, o⟩ fuel s st
  | .if_ .. | .while_ .. | .for_ false .. | .try_ false .. => fun h => nomatch h
  | .for_ true .. | .try_ true .. | .functionDef .. | .classDef .. | .with_ .. | .match_ .. | .return_ _
  | .delete _ | .assign .. | .typeAlias .. | .augAssign .. | .annAssign .. | .raise_ .. | .assert_ ..
  | .import_ .. | .importFrom .. | .global _ | .nonlocal _ | .expr _ | .pass | .break_ | .continue_ => fun _ => by
    unfold exec1; rfl

theorem exec1_simple (ft : FTab) (n : Nat) (s : St) (st : Stmt) (hb : isBlockStmt st = false) (ha : isAssertStmt st = false)
    (hc : callOf st = none) : exec1 ⟨ft, o⟩ n s st = simpleExec s st := by
  rw [exec1_flat _ _ _ _ hb]; simp [flatExec, ha, hc]

/-- the compound statements the interpreter does not enter -/
def isOpaqueStmt : Stmt → Bool
  | .classDef .. | .with_ .. | .match_ .. | .for_ true .. | .try_ true .. => true
  | _ => false

theorem exec1_opaque (ft : FTab) (n : Nat) (s : St) : (st : Stmt) → isOpaqueStmt st = true → exec1 ⟨ft, o⟩ n s st = .stuck
  | .classDef .. | .with_ .. | .match_ .. | .for_ true .. | .try_ true .. => fun _ => exec1_simple _ _ _ _ rfl rfl rfl
  | .for_ false .. | .try_ false .. | .if_ .. | .while_ .. | .functionDef .. | .return_ _ | .delete _
  | .assign .. | .typeAlias .. | .augAssign .. | .annAssign .. | .raise_ .. | .assert_ .. | .import_ ..
  | .importFrom .. | .global _ | .nonlocal _ | .expr _ | .pass | .break_ | .continue_ => fun h => nomatch h

theorem exec1_assign_name (ft : FTab) (k : Nat) (s : St) (x : String) (c : Ctx) (e : Expr)
    (hc : callOf (.assign [.name x c] e) = none) :
    exec1 ⟨ft, o⟩ k s (.assign [.name x c] e) = evalThen s e (fun v => .ok (.normal (s.assign x v))) := by
  rw [exec1_simple _ _ _ _ rfl rfl hc]; rfl

def St.enter (s : St) (ps : List String) (vs : List Val) (b : List Stmt) (bound : List String) : St :=
  { globals := s.globals, locals := some (ps.zip vs), declGlobal := declaredGlobals b, out := s.out, imports := s.imports,
    localNames := ps ++ canonNames bound }

def St.leave (s s1 : St) : St := { s with globals := s1.globals, out := s1.out, imports := s1.imports }

def St.store (t : St) (tgt : Option String) (v : Val) : St :=
  match tgt with
  | some x => t.assign x v
  | none => t

def callRet (s : St) (tgt : Option String) : Res Flow → Res Flow
  | .ok (.returned v s1) => .ok (.normal ((s.leave s1).store tgt v))
  | .ok _ => .stuck
  | .raised x s1 => .raised x (s.leave s1)
  | .stuck => .stuck
  | .timeout => .timeout

def callBody (e : RunEnv) (n : Nat) (s : St) (tgt : Option String) (vs : List Val) (ps : List String) (b : List Stmt) : Res Flow :=
  match bindTop b with
  | none => .stuck
  | some bound =>
    if ps.length != vs.length then .raised "TypeError" s
    else tick n (fun k => callRet s tgt (asCall (execL e k (s.enter ps vs b bound) b)))

theorem callFn_eq (e : RunEnv) (n : Nat) (s : St) (f : String) (args : List Expr) (tgt : Option String) :
    callFn e n s f args tgt =
      (match evalArgs s args with
       | some (.ok vs) =>
         (match e.ft.lookup f with
          | some pb => callBody e n s tgt vs pb.1 pb.2
          | none => .stuck)
       | some (.error x) => .raised x s
       | none => .stuck) := by
  rw [callFn]
  cases evalArgs s args with
  | none => rfl
  | some r =>
    cases r with
    | error x => rfl
    | ok vs =>
      simp only
      cases e.ft.lookup f with
      | none => rfl
      | some pb =>
        simp only [callBody]
        cases bindTop pb.2 with
        | none => rfl
        | some bound =>
          simp only
          split
          · rfl
          · cases n <;> rfl

/-- a function table with translated bodies (`T` is `mapT t`, `renFT R`, …; `B f` translates the body of `f`) -/
theorem lookup_mapBodies {T : FTab → FTab} {B : String → List Stmt → List Stmt} (hnil : T [] = [])
    (hcons : ∀ g ps b rest, T ((g, ps, b) :: rest) = (g, ps, B g b) :: T rest) (f : String) :
    ∀ ft : FTab, (T ft).lookup f = (ft.lookup f).map (fun pb => (pb.1, B f pb.2))
  | [] => congrArg (List.lookup f) hnil
  | (g, ps, b) :: rest => by
    rw [hcons]
    simp only [List.lookup]
    cases hg : f == g
    · exact lookup_mapBodies hnil hcons f rest
    · have : f = g := by simpa using hg
      subst this; rfl

theorem collect_mapBodies {T : FTab → FTab} {B : String → List Stmt → List Stmt} (hnil : T [] = [])
    (hcons : ∀ g ps b rest, T ((g, ps, b) :: rest) = (g, ps, B g b) :: T rest) {f : Stmt → Stmt}
    (hdef : ∀ st, defOf (f st) = (defOf st).map (fun e => (e.1, e.2.1, B e.1 e.2.2))) :
    ∀ l : List Stmt, collect (l.map f) = T (collect l)
  | [] => hnil.symm
  | st :: rest => by
    simp only [List.map_cons, collect, hdef]
    cases defOf st with
    | none => exact collect_mapBodies hnil hcons hdef rest
    | some e => simp only [Option.map_some, hcons, collect_mapBodies hnil hcons hdef rest]

theorem lookup_mem {α β : Type} [BEq α] [LawfulBEq α] (l : List (α × β)) (k : α) (v : β) (h : l.lookup k = some v) : (k, v) ∈ l := by
  obtain ⟨_, _, rfl, _⟩ := List.lookup_eq_some_iff.mp h
  simp

theorem declaredGlobals_append : ∀ a b : List Stmt, declaredGlobals (a ++ b) = declaredGlobals a ++ declaredGlobals b
  | [], _ => rfl
  | st :: rest, b => by simp [declaredGlobals, declaredGlobals_append rest b]

theorem collect_append : ∀ a b : List Stmt, collect (a ++ b) = collect a ++ collect b
  | [], _ => rfl
  | st :: rest, b => by
    simp only [List.cons_append, collect]
    cases defOf st <;> simp [collect_append rest b]

/-- `run` (`o = false`) and `runO` (`o = true`) in one: the whole-module theorems are proved for both at once -/
def runWith (o : Bool) (fuel : Nat) (m : Module) : Obs :=
  observe (execL ⟨collect m.body, o⟩ fuel St.init m.body) St.init

/-- Induction over the statement forms whose blocks the interpreter enters; every other statement is shown outright, whatever
    it contains. -/
structure BlockInd (pS : Stmt → Prop) (pL : List Stmt → Prop) (pH : List Handler → Prop) : Prop where
  flat : ∀ st, isBlockStmt st = false → pS st
  if_ : ∀ c b e, pL b → pL e → pS (.if_ c b e)
  while_ : ∀ c b e, pL b → pL e → pS (.while_ c b e)
  for_ : ∀ tg it b e, pL b → pL e → pS (.for_ false tg it b e)
  try_ : ∀ b hs e f, pL b → pH hs → pL e → pL f → pS (.try_ false b hs e f)
  nil : pL []
  cons : ∀ st l, pS st → pL l → pL (st :: l)
  hnil : pH []
  hcons : ∀ ty nm b hs, pL b → pH hs → pH (.mk ty nm b :: hs)

mutual
theorem BlockInd.stmt {pS : Stmt → Prop} {pL : List Stmt → Prop} {pH : List Handler → Prop} (h : BlockInd pS pL pH) :
    (st : Stmt) → pS st
  | .if_ c b e => h.if_ c b e (h.list b) (h.list e)
  | .while_ c b e => h.while_ c b e (h.list b) (h.list e)
  | .for_ false tg it b e => h.for_ tg it b e (h.list b) (h.list e)
  | .try_ false b hs e f => h.try_ b hs e f (h.list b) (h.handlers hs) (h.list e) (h.list f)
  | .for_ true .. | .try_ true .. | .functionDef .. | .classDef .. | .with_ .. | .match_ .. | .return_ _ | .delete _
  | .assign .. | .typeAlias .. | .augAssign .. | .annAssign .. | .raise_ .. | .assert_ .. | .import_ .. | .importFrom ..
  | .global _ | .nonlocal _ | .expr _ | .pass | .break_ | .continue_ => h.flat _ rfl
theorem BlockInd.list {pS : Stmt → Prop} {pL : List Stmt → Prop} {pH : List Handler → Prop} (h : BlockInd pS pL pH) :
    (l : List Stmt) → pL l
  | [] => h.nil
  | st :: l => h.cons st l (h.stmt st) (h.list l)
theorem BlockInd.handlers {pS : Stmt → Prop} {pL : List Stmt → Prop} {pH : List Handler → Prop} (h : BlockInd pS pL pH) :
    (hs : List Handler) → pH hs
  | [] => h.hnil
  | .mk ty nm b :: hs => h.hcons ty nm b hs (h.list b) (h.handlers hs)
end

theorem BlockInd.all {pS : Stmt → Prop} {pL : List Stmt → Prop} {pH : List Handler → Prop} (h : BlockInd pS pL pH) :
    (∀ st, pS st) ∧ (∀ l, pL l) ∧ (∀ hs, pH hs) := ⟨h.stmt, h.list, h.handlers⟩

end PMV.PyCore
