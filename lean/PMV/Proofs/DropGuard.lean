import PMV.Proofs.TransformsMap
/-
  The statement-removing transforms with the guard of fixes F39 / F41: the suite is `filterSuite q` of `dropGuard q b` (a leading
  statement that is about to be removed is replaced by the placeholder `0` when a string statement would move to the front and
  become a docstring).  The canonical forms keep nothing of the replaced statement and nothing of `0`, so the canon theorems about
  the plain filter carry over (`dropGuard_invariant`).
-/
namespace PMV.Transforms
open PMV PMV.Spec.Rewrites

theorem dropGuard_not (q : Stmt → Bool) (s0 : Stmt) (rest : List Stmt) (h : q s0 = false) : dropGuard q (s0 :: rest) = s0 :: rest := by
  simp [dropGuard, h]

theorem dropGuard_nil (q : Stmt → Bool) (s0 : Stmt) (rest : List Stmt) (hf : rest.filter (fun s => !q s) = []) :
    dropGuard q (s0 :: rest) = s0 :: rest := by
  unfold dropGuard
  simp only [hf]
  split <;> rfl

theorem dropGuard_cons (q : Stmt → Bool) (s0 s : Stmt) (rest tl : List Stmt) (h : q s0 = true) (hf : rest.filter (fun s => !q s) = s :: tl) :
    dropGuard q (s0 :: rest) = if isStrStmt s then zeroStmt :: rest else s0 :: rest := by
  unfold dropGuard
  simp only [hf, h, if_true]

/-- the guard either replaces a leading statement that is about to be removed, or leaves the block alone, and then removing
    brings no string statement to the front -/
theorem dropGuard_cases (q : Stmt → Bool) (b : List Stmt) :
    (dropGuard q b = b ∧ (startsWithString b = false → startsWithString (b.filter (fun s => !q s)) = false)) ∨
    ∃ s0 rest, b = s0 :: rest ∧ q s0 = true ∧ dropGuard q b = zeroStmt :: rest := by
  cases b with
  | nil => exact .inl ⟨rfl, id⟩
  | cons s0 rest =>
    cases hq : q s0 with
    | false => exact .inl ⟨dropGuard_not q s0 rest hq, by simp [hq, startsWithString]⟩
    | true =>
      cases hf : rest.filter (fun s => !q s) with
      | nil => exact .inl ⟨dropGuard_nil q s0 rest hf, fun _ => by simp [hq, hf, startsWithString]⟩
      | cons s tl =>
        rw [dropGuard_cons q s0 s rest tl hq hf]
        cases hs : isStrStmt s with
        | true => exact .inr ⟨s0, rest, rfl, hq, rfl⟩
        | false => exact .inl ⟨rfl, fun _ => by simp [hq, hf, startsWithString, hs]⟩

theorem dropGuard_invariant {α : Sort _} (P : List Stmt → α) (q : Stmt → Bool)
    (h : ∀ s0 rest, q s0 = true → P (zeroStmt :: rest) = P (s0 :: rest)) (b : List Stmt) : P (dropGuard q b) = P b := by
  rcases dropGuard_cases q b with ⟨h', _⟩ | ⟨s0, rest, hb, hq0, h'⟩
  · rw [h']
  · rw [h', hb]; exact h s0 rest hq0

@[simp] theorem guardT_suiteF (q : Stmt → Bool) (m : Bool) (b : List Stmt) : (guardT q).suiteF m b = filterSuite q m (dropGuard q b) := rfl
@[simp] theorem guardT_stmtF (q : Stmt → Bool) (s : Stmt) : (guardT q).stmtF s = s := rfl
@[simp] theorem guardT_funcBodyF (q : Stmt → Bool) (b : List Stmt) : (guardT q).funcBodyF b = b := rfl

/-- what `dropGuard` replaces and the `0` it puts there are both taken for the empty block -/
theorem unseen_guard (q : Stmt → Bool) : Unseen q fun m b => filterSuite q m (dropGuard q b) := fun happ hz hq m b =>
  (unseen_filterSuite q happ hz hq m _).trans (dropGuard_invariant _ q (fun s0 rest h0 => by
    rw [← List.singleton_append (l := rest), ← List.singleton_append (x := s0), happ, happ, hz, hq s0 h0]) b)

theorem absorbs_guardT (c : COpts) (q : Stmt → Bool) (hq : ∀ cls s, q s = true → kept c (cStmt c cls s) = [])
    (hz : dropStmt c zeroStmt = true) : Absorbs c (guardT q) := absorbs_unseen (unseen_guard q) c hq hz

theorem absorbs_removeDebug : Absorbs DbgOnly removeDebug :=
  absorbs_guardT DbgOnly canRemoveDebug (kept_removed rfl) rfl

theorem filter_head_kept (q : Stmt → Bool) (s : Stmt) (rest : List Stmt) (h : q s = false) (m : Bool) :
    filterSuite q m (s :: rest) = s :: rest.filter (fun x => !q x) := by
  simp [filterSuite, h]

theorem filter_head_dropped (q : Stmt → Bool) (s : Stmt) (rest : List Stmt) (h : q s = true) (m : Bool) :
    filterSuite q m (s :: rest) = filterSuite q m rest := by
  simp [filterSuite, h]

/-- T05.6: no block gains a docstring -/
theorem guarded_no_new_docstring (q : Stmt → Bool) (hz : q zeroStmt = false) (m : Bool) (b : List Stmt)
    (h : startsWithString b = false) : startsWithString (filterSuite q m (dropGuard q b)) = false := by
  rcases dropGuard_cases q b with ⟨e, hk⟩ | ⟨s0, rest, _, _, e⟩ <;> rw [e]
  · rw [filterSuite_invariant startsWithString q rfl]; exact hk h
  · rw [filter_head_kept q zeroStmt rest hz]; rfl

theorem isStrStmt_trav (t : SuiteT) (hs : ∀ s, t.stmtF s = s) (s : Stmt) : isStrStmt (travStmt t s) = isStrStmt s := by
  cases s with
  | try_ st _ _ _ _ => cases st <;> rfl
  | for_ | while_ | if_ | with_ | match_ => rfl
  | functionDef | classDef => rw [travStmt, hs]; rfl
  | _ => exact congrArg isStrStmt (hs _)

theorem startsWithString_trav (t : SuiteT) (hs : ∀ s, t.stmtF s = s) (b : List Stmt) :
    startsWithString (travBody t b) = startsWithString b := by
  cases b with
  | nil => simp [travBody, startsWithString]
  | cons s rest => simp [travBody, startsWithString, isStrStmt_trav t hs s]

theorem passGuard_eq (b : List Stmt) : passGuard b = dropGuard isPass b := by
  cases b with
  | nil => rfl
  | cons s0 rest =>
    cases s0 <;> rfl

theorem removePass_eq : removePass = guardT isPass := by
  unfold removePass guardT
  congr; funext m b; rw [passGuard_eq]

@[simp] theorem removePass_suiteF (m : Bool) (b : List Stmt) : removePass.suiteF m b = filterSuite isPass m (passGuard b) := rfl
@[simp] theorem removePass_stmtF (s : Stmt) : removePass.stmtF s = s := rfl
@[simp] theorem removePass_funcBodyF (b : List Stmt) : removePass.funcBodyF b = b := rfl

end PMV.Transforms
