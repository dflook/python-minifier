import PMV.Model.Resolve
namespace PMV.Resolve

/-- T03.3a: `get_binding` answers with the first scope on Python's lookup path that binds the name -/
theorem getBinding_spec (t : Tree) (x : String) : ∀ (fuel n : Nat), getBinding t x fuel n = resolveSpec t x fuel n
  | 0, _ => rfl
  | f + 1, n => by
    show (if _ then _ else _) = List.find? _ (if _ then _ else _)
    simp only [getBinding_spec t x f, resolveSpec, bne]
    cases (info t n).kind == .module <;>
      simp only [Bool.not_true, Bool.not_false, Bool.false_and, Bool.true_and, Bool.false_eq_true, if_false, if_true]
    · -- `global`, `nonlocal`, neither: the search goes under the branches of the path
      rw [apply_ite (List.find? _), apply_ite (List.find? _), List.find?_cons]
      cases (info t n).bindings.contains x <;> rfl
    · -- the module: the last scope on every path
      rw [List.find?_cons]; cases (info t n).bindings.contains x <;> rfl

/-- one step of the lookup path: the module alone; otherwise the path of `m`, the module (`global`) or the enclosing function
    scope, with `n` in front unless `n` declares the name `global` or `nonlocal` -/
theorem lookupPath_succ (t : Tree) (x : String) (f n : Nat) :
    ((info t n).kind = .module ∧ lookupPath t x (f + 1) n = [n]) ∨
    ((info t n).kind ≠ .module ∧ ∃ m, (m = 0 ∨ m = nonlocalNs t t.length n) ∧
      (lookupPath t x (f + 1) n = lookupPath t x f m ∨ lookupPath t x (f + 1) n = n :: lookupPath t x f m)) :=
  if hk : (info t n).kind == .module then .inl ⟨beq_iff_eq.mp hk, if_pos hk⟩
  else .inr ⟨fun hm => hk (beq_iff_eq.mpr hm),
    if hg : (info t n).globals.contains x then ⟨0, .inl rfl, .inl ((if_neg hk).trans (if_pos hg))⟩
    else if hn : (info t n).nonlocals.contains x then ⟨_, .inr rfl, .inl ((if_neg hk).trans ((if_neg hg).trans (if_pos hn)))⟩
    else ⟨_, .inr rfl, .inr ((if_neg hk).trans ((if_neg hg).trans (if_neg hn)))⟩⟩

/-- what holds of `n` and is passed on to wherever a lookup path continues holds of every scope on the path of `n` -/
theorem lookupPath_forall (t : Tree) (x : String) {P : Nat → Prop}
    (next : ∀ n m, P n → (info t n).kind ≠ .module → m = 0 ∨ m = nonlocalNs t t.length n → P m) :
    ∀ (fuel n : Nat), P n → ∀ a ∈ lookupPath t x fuel n, P a
  | 0, _, _ => fun _ ha => nomatch ha
  | f + 1, n, hn => by
    rcases lookupPath_succ t x f n with ⟨_, e⟩ | ⟨hk, m, hm, e⟩
    · rw [e]; exact List.forall_mem_singleton.mpr hn
    · have ih := lookupPath_forall t x next f m (next n m hn hk hm)
      rcases e with e | e <;> rw [e]
      · exact ih
      · exact List.forall_mem_cons.mpr ⟨hn, ih⟩

/-- a dumped tree: namespace 0 is the module, every other namespace comes after its parent.  `parentBefore` speaks of every
    `n`, also beyond the tree: there `info` is the default namespace, a module whose parent is 0. -/
structure WFTree (t : Tree) : Prop where
  root : (info t 0).kind = .module ∧ (info t 0).parent = 0
  parentBefore : ∀ n, n ≠ 0 → (info t n).parent < n

theorem info_ge (t : Tree) (a : Nat) (h : t.length ≤ a) : info t a = default := by
  unfold info
  simp [List.getD, List.getElem?_eq_none h]

theorem WFTree.parent_le {t : Tree} (h : WFTree t) (n : Nat) : (info t n).parent ≤ n := by
  by_cases hz : n = 0
  · subst hz; simp [h.root.2]
  · exact Nat.le_of_lt (h.parentBefore n hz)

/-- `a` is `n` or one of the namespaces that enclose it -/
inductive Anc (t : Tree) : Nat → Nat → Prop
  | refl (n : Nat) : Anc t n n
  | step {a n : Nat} : n ≠ 0 → Anc t a (info t n).parent → Anc t a n

theorem Anc.trans {t : Tree} {a b n : Nat} (h1 : Anc t a b) (h2 : Anc t b n) : Anc t a n := by
  induction h2 with
  | refl => exact h1
  | step hn _ ih => exact .step hn ih

theorem Anc.le {t : Tree} (h : WFTree t) {a n : Nat} (ha : Anc t a n) : a ≤ n := by
  induction ha with
  | refl => exact Nat.le_refl _
  | step _ _ ih => exact Nat.le_trans ih (h.parent_le _)

section
variable (t : Tree) (h : WFTree t)
include h

theorem nonlocalNs_not_class : ∀ (fuel n : Nat), n ≤ fuel → (info t (nonlocalNs t fuel n)).kind ≠ .class_
  | 0, n => fun hn => by
    obtain rfl : n = 0 := Nat.le_zero.mp hn
    rw [show nonlocalNs t 0 0 = 0 from h.root.2, h.root.1]
    exact NsKind.noConfusion
  | f + 1, n => fun hn => iteInduction (motive := fun m => (info t m).kind ≠ .class_)
    (fun hc =>
      -- the parent is a class body, so `n` is not the module and its parent comes before it
      have hz : n ≠ 0 := fun hz => by rw [hz, h.root.2, h.root.1] at hc; cases hc
      nonlocalNs_not_class f _ (Nat.le_of_lt_succ (Nat.lt_of_lt_of_le (h.parentBefore n hz) hn)))
    fun hc hk => hc (beq_iff_eq.mpr hk)

theorem nonlocalNs_anc_parent : ∀ (fuel n : Nat), Anc t (nonlocalNs t fuel n) (info t n).parent
  | 0, _ => .refl _
  | f + 1, n => iteInduction (motive := (Anc t · (info t n).parent))
    (fun hc => .step (fun hz => by rw [hz, h.root.1] at hc; cases hc) (nonlocalNs_anc_parent f _))
    fun _ => .refl _

theorem nonlocalNs_le_parent (fuel n : Nat) : nonlocalNs t fuel n ≤ (info t n).parent :=
  Anc.le h (nonlocalNs_anc_parent t h fuel n)

theorem nonlocalNs_lt (fuel n : Nat) (hn : n ≠ 0) : nonlocalNs t fuel n < n :=
  Nat.lt_of_le_of_lt (nonlocalNs_le_parent t h fuel n) (h.parentBefore n hn)

/-- where a lookup path continues (`lookupPath_succ`) is inside the tree and not a class body -/
theorem next_not_class {n m : Nat} (hn : n ≤ t.length) (hm : m = 0 ∨ m = nonlocalNs t t.length n) :
    m ≤ t.length ∧ (info t m).kind ≠ .class_ := by
  rcases hm with rfl | rfl
  · exact ⟨Nat.zero_le _, by rw [h.root.1]; exact NsKind.noConfusion⟩
  · exact ⟨Nat.le_trans (nonlocalNs_le_parent t h _ n) (Nat.le_trans (h.parent_le n) hn), nonlocalNs_not_class t h t.length n hn⟩

theorem lookupPath_not_class (x : String) (fuel n : Nat) (hn : n ≤ t.length) (hk : (info t n).kind ≠ .class_) :
    ∀ a ∈ lookupPath t x fuel n, (info t a).kind ≠ .class_ := fun a ha =>
  (lookupPath_forall t x (P := fun m => m ≤ t.length ∧ (info t m).kind ≠ .class_)
    (fun _ _ hn _ hm => next_not_class t h hn.1 hm) fuel n ⟨hn, hk⟩ a ha).2

end

end PMV.Resolve
