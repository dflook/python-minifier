import PMV.Proofs.PyCoreSim
import PMV.Model.RenameAst
/-
  What the renaming (`PyCoreRename`) and the hoisting (`PyCoreHoist`) share: a translation that commutes with the expression
  forms of the core preserves values once it does so on constants and names (`evalE_trans`).
-/
namespace PMV.PyCore
open PMV PMV.RenameAst

variable {o : Bool} {P : String → Bool} {s s' : St}

def okE (P : String → Bool) (e : Expr) : Bool := (namesE e).all P

def okEs (P : String → Bool) (es : List Expr) : Bool := (namesEs es).all P

theorem okE_unary {op : UnaryOpK} {e : Expr} (h : okE P (.unaryOp op e) = true) : okE P e = true := h

theorem okE_name {x : String} {c : Ctx} (h : okE P (.name x c) = true) : P x = true := by
  have h : (P x && true) = true := h
  rwa [Bool.and_true] at h

theorem okE_call {f : Expr} {args : List Expr} {kws : List Keyword} (h : okE P (.call f args kws) = true) :
    okE P f = true ∧ okEs P args = true := by
  have h : (namesE f ++ namesEs args).all P = true := h
  rwa [List.all_append, Bool.and_eq_true] at h

theorem okE_binOp {l r : Expr} {op : BinOpK} :
    okE P (.binOp l op r) = true ↔ okE P l = true ∧ okE P r = true := by
  show (namesE l ++ namesE r).all P = true ↔ _
  rw [List.all_append, Bool.and_eq_true]; rfl

theorem okEs_cons {e : Expr} {es : List Expr} (h : okEs P (e :: es) = true) :
    okE P e = true ∧ okEs P es = true := by
  have h : (namesE e ++ namesEs es).all P = true := h
  rwa [List.all_append, Bool.and_eq_true] at h

theorem okE_compare {l : Expr} {ops : List CmpOpK} {cs : List Expr} (h : okE P (.compare l ops cs) = true) :
    okE P l = true ∧ okEs P cs = true := by
  have h : (namesE l ++ namesEs cs).all P = true := h
  rwa [List.all_append, Bool.and_eq_true] at h

theorem okE_boolOp {op : BoolOpK} {vs : List Expr} (h : okE P (.boolOp op vs) = true) : okEs P vs = true := h

theorem okE_ifExp {c a b : Expr} (h : okE P (.ifExp c a b) = true) :
    okE P c = true ∧ okE P a = true ∧ okE P b = true := by
  have h : (namesE c ++ namesE a ++ namesE b).all P = true := h
  rwa [List.all_append, List.all_append, Bool.and_eq_true, Bool.and_eq_true, and_assoc] at h

theorem asNameCall_names (e : Expr) (g : String) (c : Ctx) (args : List Expr)
    (h : asNameCall e = some (g, c, args)) (hok : okE P e = true) : P g = true ∧ okEs P args = true := by
  rw [asNameCall_some e g c args h] at hok
  exact ⟨okE_name (okE_call hok).1, (okE_call hok).2⟩

theorem okEs_of_printArgs (e : Expr) (args : List Expr) (hp : printArgs e = some args) (hok : okE P e = true) :
    okEs P args = true := by
  rw [printArgs_eq] at hp
  obtain ⟨p, hc, hp⟩ := Option.bind_eq_some_iff.mp hp
  split at hp
  · cases hp; exact (asNameCall_names e p.1 p.2.1 p.2.2 hc hok).2
  · cases hp

theorem assignTarget_mem (ts : List Expr) (x : String) (h : assignTarget ts = some x) : x ∈ namesEs ts := by
  obtain ⟨c, rfl⟩ := assignTarget_some ts x h
  exact List.mem_cons_self

theorem raiseName_mem (e c : Option Expr) (n : String) (h : raiseName e c = some n) : n ∈ namesO e := by
  unfold raiseName at h
  split at h
  · simp only [Option.some.injEq] at h; subst h; exact List.mem_cons_self
  · simp only [Option.some.injEq] at h; subst h; exact List.mem_cons_self
  · simp at h

theorem debugCmp_names (c : Expr) (op : CmpOpK) (e : Expr) (hd : debugCmp c = some (op, e)) (hok : okE P c = true) :
    okE P e = true := by
  unfold debugCmp at hd
  split at hd
  · rename_i x ctx op' e'
    split at hd
    · simp only [Option.some.injEq, Prod.mk.injEq] at hd
      obtain ⟨_, rfl⟩ := hd
      exact (okEs_cons (okE_compare hok).2).1
    · simp at hd
  · simp at hd

theorem forRange_names (tg it : Expr) (x : String) (e : Expr) (h : forRange tg it = some (x, e))
    (htg : okE P tg = true) (hit : okE P it = true) : P x = true ∧ okE P e = true := by
  unfold forRange at h
  split at h
  · rename_i y c f c2 e'
    split at h
    · simp only [Option.some.injEq, Prod.mk.injEq] at h
      obtain ⟨h1, h2⟩ := h
      subst h1; subst h2
      exact ⟨okE_name htg, (okEs_cons (okE_call hit).2).1⟩
    · simp at h
  · simp at h

theorem callOf_names (st : Stmt) (f : String) (args : List Expr) (tgt : Option String)
    (h : callOf st = some (f, args, tgt)) (hn : (namesS st).all P = true) :
    okEs P args = true ∧ ∀ x, tgt = some x → P x = true := by
  rcases callOf_some h with ⟨e, c, rfl, hc, rfl⟩ | ⟨ts, v, x, c, rfl, hx, hc, rfl⟩
  · exact ⟨(asNameCall_names e f c args hc hn).2, fun _ hx => by cases hx⟩
  · have hn : (namesEs ts ++ namesE v).all P = true := hn
    rw [List.all_append, Bool.and_eq_true] at hn
    exact ⟨(asNameCall_names v f c args hc hn.2).2, fun y hy => by cases hy; exact List.all_eq_true.mp hn.1 _ (assignTarget_mem ts _ hx)⟩

theorem names_if {c : Expr} {b l : List Stmt} (h : (namesS (.if_ c b l)).all P = true) :
    okE P c = true ∧ (namesL b).all P = true ∧ (namesL l).all P = true := by
  have h : (namesE c ++ namesL b ++ namesL l).all P = true := h
  simp only [List.all_append, Bool.and_eq_true, and_assoc] at h
  exact h

theorem names_for {a : Bool} {tg it : Expr} {b l : List Stmt} (h : (namesS (.for_ a tg it b l)).all P = true) :
    okE P tg = true ∧ okE P it = true ∧ (namesL b).all P = true ∧ (namesL l).all P = true := by
  have h : (namesE tg ++ namesE it ++ namesL b ++ namesL l).all P = true := h
  simp only [List.all_append, Bool.and_eq_true, and_assoc] at h
  exact h

theorem names_try {a : Bool} {b l f : List Stmt} {hs : List Handler} (h : (namesS (.try_ a b hs l f)).all P = true) :
    (namesL b).all P = true ∧ (namesH hs).all P = true ∧ (namesL l).all P = true ∧ (namesL f).all P = true := by
  have h : (namesL b ++ namesH hs ++ namesL l ++ namesL f).all P = true := h
  simp only [List.all_append, Bool.and_eq_true, and_assoc] at h
  exact h

theorem names_cons {st : Stmt} {l : List Stmt} (h : (namesL (st :: l)).all P = true) :
    (namesS st).all P = true ∧ (namesL l).all P = true := by
  have h : (namesS st ++ namesL l).all P = true := h
  rwa [List.all_append, Bool.and_eq_true] at h

theorem names_hcons {ty : Option Expr} {nm : Option String} {b : List Stmt} {hs : List Handler}
    (h : (namesH (.mk ty nm b :: hs)).all P = true) : (namesL b).all P = true ∧ (namesH hs).all P = true := by
  have h : (namesO ty ++ namesL b ++ namesH hs).all P = true := h
  simp only [List.all_append, Bool.and_eq_true] at h
  exact ⟨h.1.2, h.2⟩

structure ExprTrans (τ : Expr → Expr) (τs : List Expr → List Expr) : Prop where
  head : ∀ e, isCoreHead (τ e) = isCoreHead e
  unaryOp : ∀ op e, τ (.unaryOp op e) = .unaryOp op (τ e)
  binOp : ∀ l op r, τ (.binOp l op r) = .binOp (τ l) op (τ r)
  compare : ∀ l ops cs, τ (.compare l ops cs) = .compare (τ l) ops (τs cs)
  boolOp : ∀ op vs, τ (.boolOp op vs) = .boolOp op (τs vs)
  ifExp : ∀ c a b, τ (.ifExp c a b) = .ifExp (τ c) (τ a) (τ b)
  nil : τs [] = []
  cons : ∀ e es, τs (e :: es) = τ e :: τs es

section
variable {τ : Expr → Expr} {τs : List Expr → List Expr} (T : ExprTrans τ τs)
  (hconst : ∀ c, evalE s' (τ (.constant c)) = evalE s (.constant c))
  (hname : ∀ x c, P x = true → evalE s' (τ (.name x c)) = evalE s (.name x c))
include T hconst hname

theorem evalE_trans : (e : Expr) → okE P e = true → evalE s' (τ e) = evalE s e
  | .constant c => fun _ => hconst c
  | .name x c => fun hok => hname x c (okE_name hok)
  | .unaryOp op v => fun hok => by
    have ih := evalE_trans v (okE_unary hok)
    rw [T.unaryOp]
    cases op with
    | not_ => rw [evalE_not, evalE_not, ih]
    | uSub => rw [evalE_uSub, evalE_uSub, ih]
    | invert | uAdd => rfl
  | .binOp l op r => fun hok => by
    have hl := okE_binOp.mp hok
    rw [T.binOp, evalE_binOp, evalE_binOp, evalE_trans l hl.1, evalE_trans r hl.2]
  | .compare l ops cs => fun hok => by
    rw [T.compare]
    match ops, cs with
    | [op], [r] =>
      have hl := okE_compare hok
      rw [T.cons, T.nil, evalE_compare1, evalE_compare1, evalE_trans l hl.1, evalE_trans r (okEs_cons hl.2).1]
    | [], cs => simp [evalE]
    | [_], [] => rw [T.nil]; simp [evalE]
    | [_], _ :: _ :: _ => rw [T.cons, T.cons]; simp [evalE]
    | _ :: _ :: _, _ => simp [evalE]
  | .boolOp op vs => fun hok => by
    rw [T.boolOp]
    match vs with
    | [a, b] =>
      have hl := okEs_cons (okE_boolOp hok)
      rw [T.cons, T.cons, T.nil]
      cases op
      · rw [evalE_and, evalE_and, evalE_trans a hl.1, evalE_trans b (okEs_cons hl.2).1]
      · rw [evalE_or, evalE_or, evalE_trans a hl.1, evalE_trans b (okEs_cons hl.2).1]
    | [] => rw [T.nil]; cases op <;> simp [evalE]
    | [_] => rw [T.cons, T.nil]; cases op <;> simp [evalE]
    | _ :: _ :: _ :: _ => rw [T.cons, T.cons, T.cons]; cases op <;> simp [evalE]
  | .ifExp c a b => fun hok => by
    have hl := okE_ifExp hok
    rw [T.ifExp, evalE_ifExp, evalE_ifExp, evalE_trans c hl.1, evalE_trans a hl.2.1, evalE_trans b hl.2.2]
  | .call .. | .tuple .. | .namedExpr .. | .lambda .. | .dict .. | .set _ | .listComp .. | .setComp .. | .dictComp ..
  | .generatorExp .. | .await .. | .yield .. | .yieldFrom .. | .joinedStr .. | .attribute .. | .subscript .. | .starred ..
  | .list .. | .slice .. | .paren .. => fun _ => evalE_nonCore_map T.head s s' _ rfl


end

theorem evalArgs_trans {τ : Expr → Expr} {τs : List Expr → List Expr} (T : ExprTrans τ τs)
    (he : ∀ e, okE P e = true → evalE s' (τ e) = evalE s e) :
    (args : List Expr) → okEs P args = true → evalArgs s' (τs args) = evalArgs s args
  | [] => fun _ => by rw [T.nil]; rfl
  | e :: es => fun hok => by
    have hl := okEs_cons hok
    rw [T.cons]
    simp only [evalArgs, he e hl.1, evalArgs_trans T he es hl.2]

theorem ExprTrans.map {τ : Expr → Expr} {τs : List Expr → List Expr} (T : ExprTrans τ τs) : ∀ es, τs es = es.map τ
  | [] => T.nil
  | e :: es => by rw [T.cons, T.map es]; rfl

theorem debugCmp_trans {τ : Expr → Expr} {τs : List Expr → List Expr} (T : ExprTrans τ τs) (l : Expr) (ops : List CmpOpK)
    (cs : List Expr) (hdbg : isDbgName (τ l) = isDbgName l) :
    debugCmp (τ (.compare l ops cs)) = (debugCmp (.compare l ops cs)).map fun p => (p.1, τ p.2) := by
  rw [T.compare, T.map]; exact debugCmp_map τ ops cs hdbg

theorem condE_trans {τ : Expr → Expr} (c : Expr)
    (hdbg : isDbgName (τ c) = isDbgName c) (hcmp : debugCmp (τ c) = (debugCmp c).map fun p => (p.1, τ p.2))
    (he : ∀ e, okE P e = true → evalE s' (τ e) = evalE s e) (hok : okE P c = true) :
    condE o s' (τ c) = condE o s c := by
  unfold condE
  rw [hdbg, hcmp]
  by_cases hdn : isDbgName c = true
  · simp only [hdn, if_true]
  · simp only [hdn, Bool.false_eq_true, if_false]
    cases hd : debugCmp c with
    | some p => simp only [Option.map_some]; rw [he p.2 (debugCmp_names c p.1 p.2 hd hok)]
    | none => simp only [Option.map_none]; exact he c hok

theorem binVal_noMod {a b : Val} {op : BinOpK} {v : Val} (h : binVal a b op = some (.ok v)) (n : String) : v ≠ .mod n := by
  intro hn
  subst hn
  unfold binVal at h
  split at h
  · cases h
  · cases h
  · cases h
  · cases h
  · split at h
    · split at h
      · cases h
      · split at h <;> cases h
    · cases h

theorem cmpVal_noMod {a b : Val} {op : CmpOpK} {v : Val} (h : cmpVal a b op = some (.ok v)) (n : String) : v ≠ .mod n := by
  intro hn
  subst hn
  unfold cmpVal at h
  split at h
  · split at h <;> cases h
  · split at h <;> cases h

/-- The values a call passes are never a module: the parameter copies at the start of a renamed body read them back through
    `evalE`, for which a name that holds one has no meaning. -/
theorem evalE_noMod (s : St) : (e : Expr) → (v : Val) → evalE s e = some (.ok v) → ∀ n, v ≠ .mod n
  | .constant c => fun v h => by
    cases c <;> simp [evalE] at h <;> (subst h; intro n; simp)
  | .name x c => fun v h => by
    simp only [evalE] at h
    split at h
    · simp at h
    · split at h
      · simp at h
      · rename_i w hne hw
        simp only [Option.some.injEq, Except.ok.injEq] at h
        subst h
        intro n hn
        exact hne n hn
      · simp at h
  | .unaryOp op e => fun v h => by
    cases op with
    | not_ =>
      rw [evalE_not] at h
      obtain ⟨w, _, h⟩ := evalBind_ok h
      cases h; intro n; simp
    | uSub =>
      rw [evalE_uSub] at h
      obtain ⟨w, _, h⟩ := evalBind_ok h
      cases hw : w.asInt <;> simp [hw] at h
      subst h; intro n; simp
    | invert | uAdd => simp [evalE] at h
  | .binOp l op r => fun v h => by
    rw [evalE_binOp] at h
    obtain ⟨a, _, h⟩ := evalBind_ok h
    obtain ⟨b, _, h⟩ := evalBind_ok h
    exact binVal_noMod h
  | .compare l ops cs => fun v h => by
    match ops, cs with
    | [op], [r] =>
      rw [evalE_compare1] at h
      obtain ⟨a, _, h⟩ := evalBind_ok h
      obtain ⟨b, _, h⟩ := evalBind_ok h
      exact cmpVal_noMod h
    | [], _ | [_], [] | [_], _ :: _ :: _ | _ :: _ :: _, _ => simp [evalE] at h
  | .boolOp op vs => fun v h => by
    match op, vs with
    | .and_, [a, b] =>
      rw [evalE_and] at h
      obtain ⟨w, hw, h⟩ := evalBind_ok h
      split at h
      · exact evalE_noMod s b v h
      · cases h; exact evalE_noMod s a _ hw
    | .or_, [a, b] =>
      rw [evalE_or] at h
      obtain ⟨w, hw, h⟩ := evalBind_ok h
      split at h
      · cases h; exact evalE_noMod s a _ hw
      · exact evalE_noMod s b v h
    | op, [] | op, [_] | op, _ :: _ :: _ :: _ => cases op <;> simp [evalE] at h
  | .ifExp c a b => fun v h => by
    rw [evalE_ifExp] at h
    obtain ⟨w, _, h⟩ := evalBind_ok h
    split at h
    · exact evalE_noMod s a v h
    · exact evalE_noMod s b v h
  | .call .. | .tuple .. | .namedExpr .. | .lambda .. | .dict .. | .set _ | .listComp .. | .setComp .. | .dictComp ..
  | .generatorExp .. | .await .. | .yield .. | .yieldFrom .. | .joinedStr .. | .attribute .. | .subscript .. | .starred ..
  | .list .. | .slice .. | .paren .. => fun _ h => nomatch (evalE_nonCore s _ rfl).symm.trans h

theorem evalArgs_noMod (s : St) : ∀ (args : List Expr) (vs : List Val), evalArgs s args = some (.ok vs) → ∀ v ∈ vs, ∀ n, v ≠ .mod n
  | [] => fun vs h => by cases h; simp
  | e :: es => fun vs h => by
    unfold evalArgs at h
    split at h
    · next v he =>
      split at h
      · next ws hes =>
        cases h
        exact List.forall_mem_cons.mpr ⟨evalE_noMod s e v he, evalArgs_noMod s es ws hes⟩
      · next hne => exact (hne vs h).elim
    · cases h
    · cases h

theorem exec1_doc (ft : FTab) (k : Nat) (s : St) (st : Stmt) (h : isDocStmt st = true) :
    exec1 ⟨ft, o⟩ k s st = .ok (.normal s) := by
  unfold isDocStmt at h
  split at h
  · rw [exec1_simple _ _ _ _ rfl rfl rfl]
    rfl
  · simp at h

theorem execL_takeWhile_doc (ft : FTab) (k : Nat) (s : St) (X : List Stmt) : ∀ l : List Stmt,
    execL ⟨ft, o⟩ k s (l.takeWhile isDocStmt ++ X) = execL ⟨ft, o⟩ k s X
  | [] => rfl
  | st :: rest => by
    by_cases hd : isDocStmt st = true
    · simp only [List.takeWhile_cons, hd, if_true, List.cons_append]
      rw [execL_cons, exec1_doc ft k s st hd]
      exact execL_takeWhile_doc ft k s X rest
    · simp [hd]

theorem execL_dropWhile_doc (ft : FTab) (k : Nat) (s : St) (l : List Stmt) :
    execL ⟨ft, o⟩ k s l = execL ⟨ft, o⟩ k s (l.dropWhile isDocStmt) := by
  conv => lhs; rw [← List.takeWhile_append_dropWhile (p := isDocStmt) (l := l)]
  exact execL_takeWhile_doc ft k s _ l

def isTableDef : Stmt → Bool
  | .functionDef false _ _ _ [] none [] => true
  | _ => false

theorem isTableDef_eq {st : Stmt} (h : isTableDef st = true) :
    ∃ n args body, st = .functionDef false n args body [] none [] := by
  unfold isTableDef at h
  split at h
  · exact ⟨_, _, _, rfl⟩
  · cases h

theorem defOf_notDef (st : Stmt) (h : isTableDef st = false) : defOf st = none := by
  unfold defOf
  split
  · cases h
  · rfl

/-- what executing a `def` of the table does depends on its parameters, not on its body -/
theorem Sim1.tableDef {K : Runs} {Q : St → St → Prop} {N : Nat} (n : String) (args : Arguments) (b b' : List Stmt) :
    Sim1 K Q N (.functionDef false n args b [] none []) (.functionDef false n args b' [] none []) := fun k _ s s' q => by
  rw [exec1_simple _ _ _ _ rfl rfl rfl, exec1_simple _ _ _ _ rfl rfl rfl]
  exact .ite (.of_rel q) (.of_rel trivial)

def fnP (ps : List String) (b : List Stmt) : String → Bool := fun x => (fnNames ps b).contains x

theorem mem_fnNames_res (ps : List String) (b : List Stmt) (r : String) (h : r ∈ reserved) : r ∈ fnNames ps b := by
  unfold fnNames; simp [h]

theorem mem_fnNames_ps (ps : List String) (b : List Stmt) (p : String) (h : p ∈ ps) : p ∈ fnNames ps b := by
  unfold fnNames; simp [h]

theorem mem_fnNames_body (ps : List String) (b : List Stmt) (x : String) (h : x ∈ namesL b) : x ∈ fnNames ps b := by
  unfold fnNames; simp [h]

theorem fnP_iff (ps : List String) (b : List Stmt) (x : String) : fnP ps b x = true ↔ x ∈ fnNames ps b := by
  unfold fnP; simp

theorem isLocal_inner (g : Env) (l : Env) (dg : List String) (out imps ln : List String) (x : String) :
    St.isLocal { globals := g, locals := some l, declGlobal := dg, out := out, imports := imps, localNames := ln } x =
      (!dg.contains x && ln.contains x) := by
  unfold St.isLocal; simp

end PMV.PyCore
