import PMV.Proofs.Hoist
import PMV.Proofs.Rename
import PMV.Generated.Names
import PMV.Proofs.HoistCollect
/-
  C06 — Hoisted literals are bound once, before use, to an identical value.
  On the placement model: the namespace chosen for an alias encloses every use; the assignment is inserted after
  docstring / `__future__` statements only and keeps the order of everything else; the alias clashes with no name of any
  binding whose scope it shares (`C03.no_new_clash` applies to hoisted bindings as to any other).  On the model of the
  collecting traversal of `HoistLiterals` (`PMV.HoistCollect`, compared with the values the real traversal hands to
  `get_binding` and with the real `_hoisted` dictionary): which literals are collected (T06.4) and how they are grouped
  into bindings under the `HoistedValue` key (T06.5).  Behaviour: T01.14 under C01.
  Not proved: the literal text of an f-string is no expression of the model's AST (the correspondence settles that the
  real traversal skips it); the replacement step `rename()` and the cost decision (its theorem: C17) are oracle-only.
-/
namespace PMV.C06
open PMV.Hoist

/-- T06.3a (dominance): when every path starts at the module, the chosen path is a prefix of the path of
    every use — the namespace the alias is assigned in encloses all of them. -/
theorem alias_encloses_every_use (m : Nat) (paths : List (List Nat)) (hm : ∀ p ∈ paths, p.head? = some m) :
    ∀ p ∈ paths, placePath paths <+: p := by
  cases paths with
  | nil => intro p hp; simp at hp
  | cons p0 ps =>
    have h0 := hm p0 List.mem_cons_self
    exact placePath_prefix ps p0 (fun h => by rw [h] at h0; cases h0)
      fun q hq => (hm q (List.mem_cons_of_mem _ hq)).trans h0.symm

/-- T06.3b (placement in the body): the new statement follows only docstring / `__future__` statements,
    and the other statements keep their order. -/
theorem alias_first_after_leading {α} (leading : α → Bool) (new : α) (s : List α) :
    ∃ pre post, insertStmt leading new s = pre ++ new :: post ∧ pre.all leading = true ∧ pre ++ post = s :=
  ⟨s.takeWhile leading, s.dropWhile leading, insertStmt_eq leading new s, List.all_takeWhile, List.takeWhile_append_dropWhile⟩

/-- T06.1 (freshness): a renamed hoisted binding gets a name different from the final name of every binding whose
    reservation scope intersects its own, unless one of them ran out of names. -/
theorem alias_fresh (pg : Bool) (moduleNs : Rename.Ns) (rg : List String) (bindings : List Rename.Binding)
    (hwf : ∀ b ∈ bindings, Rename.WFB b = true) :
    (Rename.assign Generated.nameSeq pg moduleNs rg bindings).Pairwise (fun r1 r2 =>
      (r1.renamed = true ∨ r2.renamed = true) → r1.exhausted = false → r2.exhausted = false →
      (∃ ns, ns ∈ r1.b.scope ∧ ns ∈ r2.b.scope) → r1.final.isSome → r1.final ≠ r2.final) :=
  Rename.assign_no_new_clash _ pg moduleNs rg bindings hwf

theorem unhoisted_introduces_nothing (names : List String) (pg : Bool) (a : Rename.Assigned) (b : Rename.Binding)
    (hn : b.name = none) (h : (Rename.decide1 names pg a b).renamed = false) (hx : (Rename.decide1 names pg a b).exhausted = false) :
    (Rename.decide1 names pg a b).final = none := by
  rw [(Rename.decide1_kept h hx).1, hn]

example : place [[0, 3, 7], [0, 3, 9], [0, 3]] = some 3 := by decide +kernel
example : insertStmt (fun s : String => s == "doc" || s == "future") "A='x'" ["doc", "future", "import os", "doc"]
    = ["doc", "future", "A='x'", "import os", "doc"] := by decide +kernel

open PMV PMV.HoistCollect

/-- T06.4: the traversal collects exactly the literal occurrences of the module in which every match pattern, every
    string statement and every assignment to `__slots__` in a class namespace has been erased (`blank`) — nothing
    from those positions at any depth, everything from all others, in source order. -/
theorem collected_exactly_outside_exclusions (m : Module) : collect m = allLits (blank m) :=
  colL_blank false m.body

/-- T06.4b: only `None`, `True`, `False`, strings and bytes are ever collected (numbers and `...` never are). -/
theorem collected_are_hoistable (m : Module) : ∀ c ∈ collect m, hoistable c = true :=
  colL_hoistable false m.body

/-- T06.4c: a string or bytes statement (a docstring, wherever it stands) contributes nothing. -/
theorem string_statement_never_collected (cls : Bool) (v : Expr) (h : isStrConst v = true) : colS cls (.expr v) = [] :=
  if_pos h

/-- T06.4d: an assignment (plain, augmented, annotated) to `__slots__` whose namespace is a class contributes nothing,
    whatever its value holds. -/
theorem class_slots_never_collected (ts : List Expr) (tg v ann : Expr) (op : BinOpK) (ov : Option Expr) (s : Bool)
    (hts : ts.any isSlotsName = true) (htg : isSlotsName tg = true) :
    colS true (.assign ts v) = [] ∧ colS true (.augAssign tg op v) = [] ∧ colS true (.annAssign tg ann ov s) = [] :=
  ⟨if_pos hts, if_pos htg, if_pos htg⟩

/-- T06.4e: what is collected from a `match` statement does not depend on its patterns. -/
theorem patterns_never_collected (cls : Bool) (s : Expr) (p p' : Pattern) (g : Option Expr) (body : List Stmt) (rest : List MatchCase) :
    colS cls (.match_ s (.mk p g body :: rest)) = colS cls (.match_ s (.mk p' g body :: rest)) :=
  rfl

/-- T06.4f: outside a class namespace a `__slots__` assignment is an ordinary one (the exclusion is not wider than stated). -/
theorem function_level_slots_collected (ts : List Expr) (v : Expr) : colS false (.assign ts v) = colEs ts ++ colE v :=
  rfl

/-- T06.5a: the reference counts of the hoisted bindings add up to the number of collected occurrences. -/
theorem every_occurrence_in_one_binding (m : Module) : total (bindingsOf m) = (collect m).length :=
  (groupsFrom_total (collect m) []).trans (Nat.zero_add _)

/-- T06.5b: the binding an occurrence belongs to holds a constant of the same type and value (`HoistedValue` equality:
    `None` / `True` / `False` themselves, strings by code points, bytes by bytes; never across types). -/
theorem binding_value_is_the_literal (m : Module) : ∀ c ∈ collect m, ∃ e ∈ bindingsOf m, sameValue e.1 c = true := by
  intro c hc
  obtain ⟨k, hk, hs⟩ := groupsFrom_covers (collect m) [] (colL_hoistable false m.body) c hc
  obtain ⟨e, he, rfl⟩ := List.mem_map.mp hk
  exact ⟨e, he, hs⟩

/-- T06.5c: the value of a hoisted binding is one of the collected occurrences, never anything else. -/
theorem binding_value_is_an_occurrence (m : Module) : ∀ e ∈ bindingsOf m, e.1 ∈ collect m :=
  fun _ he => groupsFrom_keys (collect m) [] (List.mem_map_of_mem he)

/-- T06.5d: values of different types are never the same key, whatever their payload (no `1 == True`, `'' == b''` confusion). -/
theorem different_types_never_merged (r : String) (a : List Nat) :
    sameValue (.str r a) (.bytes r a) = false ∧ sameValue .true_ (.int 1) = false ∧ sameValue (.int 0) .false_ = false ∧
    sameValue .none .false_ = false := by
  simp [sameValue]

open PMV PMV.HoistCollect in
example : groups [.str "'a'" [97], .none, .str "\"a\"" [97], .bytes "b'a'" [97], .none, .true_]
    = [(.str "'a'" [97], 2), (.none, 2), (.bytes "b'a'" [97], 1), (.true_, 1)] := by decide +kernel

-- non-vacuity of T06.4: a class with a docstring and `__slots__` inside an `if`, a method with a `match` and an f-string
open PMV PMV.HoistCollect in
example : collect ⟨[.classDef "C" [] [] [
      .expr (.constant (.str "'doc'" [100])),
      .if_ (.constant .true_) [.assign [.name "__slots__" .store] (.tuple [.constant (.str "'a'" [97])])] [],
      .functionDef false "f" (.mk [] [] none [] [] none []) [
        .assign [.name "__slots__" .store] (.constant (.str "'a'" [97])),
        .match_ (.constant (.str "'a'" [97])) [.mk (.matchValue (.constant (.str "'a'" [97]))) (some (.constant .none))
          [.return_ (some (.joinedStr "f'a{1}'" [.constant (.int 1), .constant (.bytes "b'a'" [97])]))]]] [] none []] [] []]⟩
    = [.true_, .str "'a'" [97], .str "'a'" [97], .none, .bytes "b'a'" [97]] := by decide +kernel

end PMV.C06
