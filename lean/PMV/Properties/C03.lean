import PMV.Generated.Names
import PMV.Proofs.NameTable
import PMV.Proofs.Rename
import PMV.Proofs.RenameResolve
import PMV.Proofs.Resolve
import PMV.Proofs.ResolveRename
import PMV.Proofs.ResolveCover
/-
  C03 — Renaming preserves which binding every name refers to.
  Two models, both fed with what the real scope analysis produced.  The NameAssigner over abstract bindings (the names
  it chooses are compared with those of the real `rename`): no new clash inside intersecting reservation scopes, new
  names from a table without keywords and builtins, pinned bindings kept.  `resolve_names.get_binding` /
  `util.get_nonlocal_namespace` over the dumped namespace tree (kind, parent, bindings, `global` / `nonlocal` declarations
  of every namespace; model and implementation are asked about every name use of every program): the binding that
  answers a use is the first one on Python's lookup path (T03.3).  Together: a use resolves after renaming to the scope
  it resolved to before (T03.4, T03.6).
  Not proved: that the scope analysis (mapper / bind_names) puts every namespace on that path into the reservation
  scope — hypothesis `cover`, which T03.7 reduces to the parent chains of the references; it is checked on the real
  binding structures against the independent scoping specification, and by the alpha-equivalence oracle.
-/
namespace PMV.C03
open PMV.Rename

/-- G03.2: the generator table (first 700 names of the running `name_filter()`) contains no keyword or
    builtin, also not with the `_` prefix used for module-level names. -/
theorem names_not_reserved :
    (Generated.nameSeq.all fun n => !Generated.reservedWords.contains n && !Generated.reservedWords.contains ("_" ++ n)) = true :=
  NameTable.all_not_contains_of_bits _ _ ((Generated.nameSeq.map NameTable.key).foldl max 0) (by decide +kernel)

theorem names_start : Generated.nameSeq.take 4 = ["A", "B", "C", "D"] ∧ Generated.nameSeq.length = 700 :=
  ⟨rfl, by decide +kernel⟩

/-- T03.1: for every list of well-formed bindings (`WFB`; any scopes, reservations), two results whose reservation
    scopes share a namespace have different final names whenever one of them was renamed, neither ran out of names and
    the earlier one has a name at all. -/
theorem no_new_clash (pg : Bool) (moduleNs : Ns) (rg : List String) (bindings : List Binding)
    (hwf : ∀ b ∈ bindings, WFB b = true) :
    (assign Generated.nameSeq pg moduleNs rg bindings).Pairwise (fun r1 r2 =>
      (r1.renamed = true ∨ r2.renamed = true) → r1.exhausted = false → r2.exhausted = false →
      (∃ ns, ns ∈ r1.b.scope ∧ ns ∈ r2.b.scope) → r1.final.isSome → r1.final ≠ r2.final) :=
  assign_no_new_clash _ pg moduleNs rg bindings hwf

/-- T03.2a: a renamed binding receives a name of the table (so: not a keyword, not a builtin). -/
theorem new_names_from_table (pg : Bool) (moduleNs : Ns) (rg : List String) (bindings : List Binding) (r : Result)
    (h : r ∈ assign Generated.nameSeq pg moduleNs rg bindings) (hr : r.renamed = true) :
    ∃ m ∈ Generated.nameSeq, r.final = some (pfxOf r.b pg ++ m) :=
  renamed_from_table h hr

/-- T04.2 (the statement of `C04.pinned_never_renamed`): a binding that may not be renamed keeps its name. -/
theorem pinned_never_renamed (pg : Bool) (moduleNs : Ns) (rg : List String) (bindings : List Binding) (r : Result)
    (h : r ∈ assign Generated.nameSeq pg moduleNs rg bindings) (hp : r.b.allow = false) :
    r.final = r.b.name ∧ r.renamed = false :=
  pinned_kept h hp

/-- T03.4: from the assigner's guarantee to name resolution.  Python resolves a name to the first scope on the use's
    lookup path that binds it.  After renaming, the use resolves to the same scope — no binding on the way captures it,
    its own binding still answers — if the reservation scope of its binding covers the lookup path below the binding's
    home (`cover`: not proved, see the head), final names never clash inside intersecting reservation scopes when one
    of them is new (`clash`: what `no_new_clash` gives for results that are not exhausted, its `Pairwise` read in both
    orders; it speaks about bindings homed in another scope than `r`: asked of `r' = r` too, no renamed `r` could satisfy
    it), a binding that was not renamed keeps its spelling (`kept`: true of every result of the loop, by `Rename.mem_loop`
    and `Rename.decide1_spec`) and every home is in its reservation scope (`homeIn`: `home_in_scope`). -/
theorem renaming_preserves_resolution (rs : List Result) (path : List Ns) (r : Result) (x : String)
    (hr : r ∈ rs) (hname : r.b.name = some x) (y : String) (hfin : r.final = some y)
    (horig : resolveOrig rs path x = some r.b.home)
    (cover : ∀ a ∈ path.takeWhile (fun a => !bindsOrig rs a x), a ∈ r.b.scope)
    (clash : ∀ r' ∈ rs, r'.b.home ≠ r.b.home → (r.renamed = true ∨ r'.renamed = true) → (∃ ns, ns ∈ r.b.scope ∧ ns ∈ r'.b.scope) → r'.final ≠ r.final)
    (kept : ∀ r' ∈ rs, r'.renamed = false → r'.final = r'.b.name)
    (homeIn : ∀ r' ∈ rs, r'.b.home ∈ r'.b.scope) :
    resolveFinal rs path y = some r.b.home :=
  PMV.Rename.renaming_preserves_resolution rs path r x hr hname y hfin horig cover clash kept homeIn

/-- hypothesis `homeIn` of T03.4 / T03.6 holds of every binding -/
theorem home_in_scope (b : Binding) : b.home ∈ b.scope :=
  List.mem_eraseDups.mpr List.mem_cons_self

-- Non-vacuity of T03.4: module (0) binds `value`, function (1) binds `local_one`, a use of `value` in the function
-- has lookup path [1, 0]; `value` is renamed to "A" and `local_one` to "B": the use still resolves to scope 0.
example :
    let gv : Binding := ⟨0, .name, some "value", 0, true, none, 0, true, [], [⟨.name, []⟩, ⟨.name, [1, 0]⟩]⟩
    let lv : Binding := ⟨1, .name, some "local_one", 0, true, none, 1, false, [], [⟨.name, []⟩, ⟨.name, []⟩]⟩
    let rs : List Result := [⟨gv, some "A", true, false⟩, ⟨lv, some "B", true, false⟩]
    resolveOrig rs [1, 0] "value" = some 0 ∧ resolveFinal rs [1, 0] "A" = some 0 ∧ resolveFinal rs [1, 0] "B" = some 1 := by
  decide +kernel

/-- T03.5 (PEP 709): a name bound in a list/set/dict comprehension is reserved in every namespace out to the
    function that contains the comprehension, so together with `no_new_clash` it never receives the final
    name of a binding referenced in (or through) that function. -/
theorem comprehension_names_reserved_in_enclosing (b : Binding) (ns : Ns) (h : ns ∈ b.enclosing) : ns ∈ b.scope :=
  List.mem_eraseDups.mpr (List.mem_cons_of_mem _ (List.mem_append_left _ h))

/-- T03.3a: for every namespace tree, name and namespace, the model of `get_binding` answers with the first scope on
    Python's lookup path that binds the name: the scope itself unless it declares the name `global` (then the module alone)
    or `nonlocal` (then it is skipped), then the enclosing scopes that are not class bodies, the module last; `none`: the
    module does not bind it either (a builtin or an unresolved name, which is never renamed).  Both sides stop when `fuel`
    runs out; the path reaches the module when `fuel > n` in a well-formed tree, since each step goes to a smaller
    namespace (`Resolve.nonlocalNs_lt`), and the driver passes `t.length + 2`. -/
theorem get_binding_is_python_lookup (t : Resolve.Tree) (x : String) (fuel n : Nat) :
    Resolve.getBinding t x fuel n = (Resolve.lookupPath t x fuel n).find? fun a => (Resolve.info t a).bindings.contains x :=
  Resolve.getBinding_spec t x fuel n

open PMV.Resolve in
/-- T03.3b: apart from the scope the use itself is in, no class body is consulted: a name bound in a class body is not
    visible from the functions, lambdas and comprehensions nested in it, so it never captures their uses. -/
theorem class_bodies_skipped (t : Resolve.Tree) (h : Resolve.WFTree t) (x : String) (fuel n : Nat) (hn : n ≤ t.length) :
    ∀ a ∈ (Resolve.lookupPath t x fuel n).drop 1, (Resolve.info t a).kind ≠ .class_ := by
  intro a ha
  cases fuel with
  | zero => exact nomatch ha
  | succ f =>
    -- after its first scope the path is (part of) the path of the module or of the enclosing function scope
    rcases lookupPath_succ t x f n with ⟨_, e⟩ | ⟨_, m, hm, e⟩
    · rw [e] at ha; exact nomatch ha
    · have ⟨hl, hc⟩ := next_not_class t h hn hm
      rcases e with e | e <;> rw [e] at ha
      · exact lookupPath_not_class t h x f m hl hc a (List.mem_of_mem_drop ha)
      · exact lookupPath_not_class t h x f m hl hc a ha

/-- the namespace `get_nonlocal_namespace` returns is never a class body -/
theorem nonlocal_namespace_not_class (t : Resolve.Tree) (h : Resolve.WFTree t) (n : Nat) (hn : n ≤ t.length) :
    (Resolve.info t (Resolve.nonlocalNs t t.length n)).kind ≠ .class_ :=
  Resolve.nonlocalNs_not_class t h t.length n hn

/-- T03.6 (T03.3 and T03.4 together): let `t'` be the namespace tree after renaming (`Resolve.RenamedFor`).  A use of `x`
    in namespace `n` that `get_binding` resolves to the binding `r` is found, under its new spelling `y` and by the same
    lookup on the renamed tree, in the same scope; `cover`, `clash`, `kept`, `homeIn` as in T03.4. -/
theorem lookup_after_renaming (t t' : Resolve.Tree) (rs : List Result) (r : Result) (x y : String) (fuel n : Nat)
    (h : Resolve.RenamedFor t t' rs x y)
    (hr : r ∈ rs) (hname : r.b.name = some x) (hfin : r.final = some y)
    (horig : Resolve.getBinding t x fuel n = some r.b.home)
    (cover : ∀ a ∈ (Resolve.lookupPath t x fuel n).takeWhile (fun a => !bindsOrig rs a x), a ∈ r.b.scope)
    (clash : ∀ r' ∈ rs, r'.b.home ≠ r.b.home → (r.renamed = true ∨ r'.renamed = true) → (∃ ns, ns ∈ r.b.scope ∧ ns ∈ r'.b.scope) → r'.final ≠ r.final)
    (kept : ∀ r' ∈ rs, r'.renamed = false → r'.final = r'.b.name)
    (homeIn : ∀ r' ∈ rs, r'.b.home ∈ r'.b.scope) :
    Resolve.getBinding t' y fuel n = Resolve.getBinding t x fuel n :=
  Resolve.lookup_after_renaming t t' rs r x y fuel n h hr hname hfin horig cover clash kept homeIn

/-- T03.7: `renamer.reservation_scope` adds, for every reference, each namespace on the parent chain from the reference's
    namespace up to the binding's home (hypothesis `chain`).  In a well-formed namespace tree that covers the lookup path
    below the home — Python's lookup path is a strictly descending part of that parent chain — which is `cover`. -/
theorem cover_from_reservation_chains (t t' : Resolve.Tree) (hw : Resolve.WFTree t) (rs : List Result) (x y : String)
    (h : Resolve.RenamedFor t t' rs x y) (scope : List Ns) (fuel n home : Nat)
    (horig : Resolve.getBinding t x fuel n = some home)
    (chain : ∀ a, Resolve.Anc t a n → home < a → a ∈ scope) :
    ∀ a ∈ (Resolve.lookupPath t x fuel n).takeWhile (fun a => !bindsOrig rs a x), a ∈ scope :=
  Resolve.cover_of_parent_chain t hw rs x h.bindsBefore scope fuel n home horig chain

/-- T03.6 with `cover` replaced by what `reservation_scope` provides (T03.7). -/
theorem lookup_after_renaming_of_chains (t t' : Resolve.Tree) (hw : Resolve.WFTree t) (rs : List Result) (r : Result) (x y : String)
    (fuel n : Nat) (h : Resolve.RenamedFor t t' rs x y)
    (hr : r ∈ rs) (hname : r.b.name = some x) (hfin : r.final = some y)
    (horig : Resolve.getBinding t x fuel n = some r.b.home)
    (chain : ∀ a, Resolve.Anc t a n → r.b.home < a → a ∈ r.b.scope)
    (clash : ∀ r' ∈ rs, r'.b.home ≠ r.b.home → (r.renamed = true ∨ r'.renamed = true) → (∃ ns, ns ∈ r.b.scope ∧ ns ∈ r'.b.scope) → r'.final ≠ r.final)
    (kept : ∀ r' ∈ rs, r'.renamed = false → r'.final = r'.b.name)
    (homeIn : ∀ r' ∈ rs, r'.b.home ∈ r'.b.scope) :
    Resolve.getBinding t' y fuel n = Resolve.getBinding t x fuel n :=
  Resolve.lookup_after_renaming_of_chains t t' hw rs r x y fuel n h hr hname hfin horig chain clash kept homeIn

-- Non-vacuity of T03.7: `Resolve.exWF`, `Resolve.exChain`, `Resolve.exAppliesChains` instantiate both theorems on the example tree.
example : Resolve.WFTree Resolve.exT := Resolve.exWF

-- Non-vacuity of T03.6: every hypothesis holds for module {value ↦ A} / function {local_one ↦ B} with a read of `value` in
-- the function (`Resolve.exRenamed`, `Resolve.exApplies` instantiate the theorem); the conclusion is what evaluation gives.
example : Resolve.getBinding Resolve.exT' "A" 4 1 = some 0 ∧ Resolve.getBinding Resolve.exT "value" 4 1 = some 0
    ∧ Resolve.RenamedFor Resolve.exT Resolve.exT' Resolve.exRs "value" "A" :=
  ⟨by decide +kernel, by decide +kernel, Resolve.exRenamed⟩

-- Non-vacuity of T03.3: module (0) and class (1) both bind `value`; for a method (2) of the class the module's binding
-- answers, in the class body itself the class's; a method (5) that declares it `global` reaches the module, a function (4)
-- nested in function 3 that declares it `nonlocal` reaches function 3.
example :
    let t : Resolve.Tree := [⟨.module, 0, ["value", "Holder", "outer"], [], []⟩, ⟨.class_, 0, ["value", "method"], [], []⟩,
      ⟨.function, 1, ["self"], [], []⟩, ⟨.function, 0, ["value", "inner"], [], []⟩, ⟨.function, 3, [], [], ["value"]⟩,
      ⟨.function, 1, [], ["value"], []⟩]
    Resolve.getBinding t "value" 8 2 = some 0 ∧ Resolve.getBinding t "value" 8 1 = some 1 ∧ Resolve.getBinding t "value" 8 4 = some 3
    ∧ Resolve.getBinding t "value" 8 5 = some 0 ∧ Resolve.getBinding t "print" 8 2 = none ∧ Resolve.lookupPath t "value" 8 2 = [2, 0] := by
  decide +kernel

-- Non-vacuity for T03.5: `outer` (home 0) is read through function 1 by a lambda (2); the comprehension variable
-- (home 3, enclosed by function 1) would be free to take "A" without the enclosing rule; with it, it gets "B".
example :
    let outer : Binding := ⟨0, .name, some "outer_value", 0, true, none, 0, false, [], [⟨.name, []⟩, ⟨.name, [2, 1, 0]⟩, ⟨.name, [2, 1, 0]⟩]⟩
    let comp : Binding := ⟨1, .name, some "loop_item", 0, true, none, 3, false, [1], [⟨.name, []⟩, ⟨.name, []⟩]⟩
    let compOld : Binding := ⟨1, .name, some "loop_item", 0, true, none, 3, false, [], [⟨.name, []⟩, ⟨.name, []⟩]⟩
    (loop Generated.nameSeq false (initial [outer, comp] 9 []) [outer, comp]).map (·.final) = [some "A", some "B"] ∧
    (loop Generated.nameSeq false (initial [outer, compOld] 9 []) [outer, compOld]).map (·.final) = [some "A", some "A"] := by
  decide +kernel

-- Non-vacuity: two bindings sharing namespace 0, one pinned to "A": the other one is renamed to "B".
example :
    let pinned : Binding := ⟨0, .name, some "A", 0, false, some "A", 0, true, [], [⟨.name, []⟩]⟩
    let free : Binding := ⟨1, .name, some "long_name", 0, true, none, 1, false, [], [⟨.name, [0]⟩, ⟨.name, []⟩, ⟨.name, []⟩]⟩
    (loop Generated.nameSeq false (initial [pinned, free] 0 []) [free, pinned]).map (·.final) = [some "B", some "A"]
    ∧ WFB pinned = true ∧ WFB free = true := by decide +kernel

end PMV.C03
