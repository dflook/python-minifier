import PMV.Generated.Pipeline
import PMV.Generated.Names
import PMV.Model.Pipeline
import PMV.Proofs.Rename
import PMV.Proofs.Freeze
import PMV.Proofs.Taint
import PMV.Proofs.TaintSyntax
/-
  C09 — Dynamic name access freezes every name in the module.
  Effect: the generated top-level shape of `minify()` equals the modelled one, in which the taint block clears both
  renaming flags and literal hoisting and exception-bracket removal are gated on `not module.tainted` (G09.1–2); with the
  flags cleared the traversal `allow_rename_locals` / `allow_rename_globals` (model `PMV.Freeze`) freezes every binding
  (T09.3), and when no binding may be renamed the assigner renames nothing and introduces no name (T09.2).
  Detection: a trigger name (`exec` / `eval` / `locals` / `globals` / `vars`) that means the builtin, on the resolver
  model of C03 (`PMV.Taint`, T09.4); star imports, `timeit` and the only-declared rule, which are syntactic
  (`PMV.TaintSyntax`, T09.5).  Each model is compared with the real functions / the real `module.tainted` on every
  generated program.
  Not proved: that `minify()` takes the disjunction of the three sources (read off the pipeline table and the oracle).
  That a trigger name *bound* somewhere may still be the builtin at run time (F29a–d) is outside any static rule of this kind.
-/
namespace PMV.C09
open PMV.Rename

/-- G09.1: `minify()` has exactly the modelled stages, conditions and order. -/
theorem pipeline_as_modelled : Generated.pipeline = Pipeline.modelled := rfl

/-- G09.2: under taint both renaming flags are cleared, and the stages that add names are gated. -/
theorem taint_gating :
    Generated.taintGating = ["rename_globals = False", "rename_locals = False"]
    ∧ Pipeline.taintGated Generated.pipeline = true := ⟨rfl, by decide +kernel⟩

/-- T09.2: if every binding is pinned (what `allow_rename_locals/globals(False)` leaves behind) then no
    result is renamed and every binding keeps its name: no identifier changes, no name is introduced. -/
theorem all_pinned_nothing_renamed (pg : Bool) (moduleNs : Ns) (rg : List String) (bindings : List Binding)
    (hall : ∀ b ∈ bindings, b.allow = false) :
    ∀ r ∈ assign Generated.nameSeq pg moduleNs rg bindings, r.renamed = false ∧ r.final = r.b.name :=
  fun r hr => (pinned_kept hr (hall r.b (assign_mem_b hr))).symm

example : Pipeline.taintGated [("hoist_literals", "rename_literals")] = false := by decide +kernel

/-- T09.3a: with local renaming off — what the taint block sets — `allow_rename_locals` freezes every binding of every namespace
    other than the module: at any depth, and whatever the node is (function, lambda, class, comprehension). -/
theorem taint_freezes_every_local (pl : List String) (n : Freeze.Node) (b : Nat × Option String) (h : Freeze.LocalBinding n b) :
    b.1 ∈ Freeze.freezeLocals false pl n :=
  (Freeze.freezeLocals_spec false pl n b.1).mpr ⟨b, h, rfl, rfl⟩

/-- T09.3b: with global renaming off `allow_rename_globals` freezes every binding of the module. -/
theorem taint_freezes_every_global (pg ex : List String) (od : List Nat) (bs : List (Nat × Option String)) (b : Nat × Option String)
    (h : b ∈ bs) : b.1 ∈ Freeze.freezeGlobals false pg ex od bs :=
  (Freeze.freezeGlobals_spec false pg ex od bs b.1).mpr ⟨b, h, rfl, Or.inl rfl⟩

-- Non-vacuity of T09.3: module → (not a namespace: an assignment) → lambda with `*args` (binding 2); module → function
-- (binding 1) → class (binding 3); the module's own binding 0 is not a local.  Everything but 0 is frozen.
example :
    let lam : Freeze.Node := .mk true false [(2, some "args")] []
    let cls : Freeze.Node := .mk true false [(3, some "attribute")] []
    let fn : Freeze.Node := .mk true false [(1, some "value")] [cls]
    let tree : Freeze.Node := .mk true true [(0, some "module_name")] [.mk false false [] [lam], fn]
    Freeze.freezeLocals false [] tree = [2, 1, 3] ∧ Freeze.freezeLocals true ["args"] tree = [2]
    ∧ Freeze.freezeGlobals false [] [] [] [(0, some "module_name")] = [0] := by decide +kernel

/-- T09.4a: the module is tainted by names exactly when some lookup of a trigger name finds no binding on Python's lookup path
    of that use — own scope unless `global` / `nonlocal`, enclosing non-class scopes, module — so the name means the builtin. -/
theorem tainted_by_names_iff (t : Resolve.Tree) (fuel : Nat) (lookups : List Taint.Lookup) :
    Taint.taintedByNames t fuel lookups = true ↔
      ∃ l ∈ lookups, l.1 ∈ Taint.triggers ∧ ∀ a ∈ Resolve.lookupPath t l.1 fuel l.2, (Resolve.info t a).bindings.contains l.1 = false := by
  simp only [Taint.taintedByNames, List.any_eq_true, Taint.taintsBy_iff]

/-- T09.4b: a trigger name that is bound in a scope the use can see is a program variable: that lookup does not taint
    (the control group of the oracle; why F29a–d are possible at all). -/
theorem bound_trigger_does_not_taint (t : Resolve.Tree) (fuel : Nat) (l : Taint.Lookup) (a : Nat)
    (ha : a ∈ Resolve.lookupPath t l.1 fuel l.2) (hb : (Resolve.info t a).bindings.contains l.1 = true) : Taint.taintsBy t fuel l = false :=
  Taint.bound_trigger_does_not_taint t fuel l a ha hb

-- Non-vacuity of T09.4: `eval` read in a method (2) of a class (1) that binds `eval` as an attribute: class bodies are
-- skipped, the module does not bind it → tainted; read in the class body itself, or with `eval` bound at module level →
-- not tainted; `print` is no trigger.
example :
    let t : Resolve.Tree := [⟨.module, 0, ["Holder"], [], []⟩, ⟨.class_, 0, ["eval", "method"], [], []⟩, ⟨.function, 1, ["self"], [], []⟩]
    let t2 : Resolve.Tree := [⟨.module, 0, ["Holder", "eval"], [], []⟩, ⟨.class_, 0, ["method"], [], []⟩, ⟨.function, 1, ["self"], [], []⟩]
    Taint.taintedByNames t 5 [("eval", 2)] = true ∧ Taint.taintedByNames t 5 [("eval", 1), ("print", 2)] = false
    ∧ Taint.taintedByNames t2 5 [("eval", 2)] = false := by decide +kernel

open PMV PMV.TaintSyntax

/-- T09.5a: the import part of taint detection holds exactly when some statement of the module — at any depth, in a function,
    a class or any block — is an import with an alias `*` or with the root module `timeit`. -/
theorem tainted_by_imports_iff (m : Module) :
    taintedByImports m = true ↔ ∃ st ∈ allStmts m, stmtTaints st = true := by
  unfold taintedByImports allStmts
  rw [taintL_spec, List.any_eq_true]

/-- T09.5b: a star import taints the module wherever it stands. -/
theorem star_import_anywhere_taints (m : Module) (mo : Option String) (names : List Alias) (lv : Nat) (a : Alias)
    (hst : Stmt.importFrom mo names lv ∈ allStmts m) (ha : a ∈ names) (hstar : a.name = "*") :
    taintedByImports m = true :=
  (tainted_by_imports_iff m).mpr ⟨_, hst, List.any_eq_true.mpr ⟨a, ha, by simp [aliasTaints, hstar]⟩⟩

/-- T09.5c: `is_only_declared` stated outright: no reference is anything but a `global` declaration or a read, and there is a
    declaration. -/
theorem only_declared_iff (refs : List TaintSyntax.RefKind) :
    isOnlyDeclared refs = true ↔ (∀ r ∈ refs, r ≠ .other) ∧ .globalDecl ∈ refs := by
  have other : ∀ r : TaintSyntax.RefKind, (r == .globalDecl || r == .nameLoad) = true ↔ r ≠ .other := fun r => by cases r <;> decide
  simp only [isOnlyDeclared, Bool.and_eq_true, List.all_eq_true, other, List.any_beq', List.contains_iff_mem]

/-- T09.5d: a trigger name that is declared `global` somewhere, never bound and otherwise only read, taints the module. -/
theorem declared_trigger_taints (bindings : List (String × List TaintSyntax.RefKind)) (n : String) (refs : List TaintSyntax.RefKind)
    (hb : (n, refs) ∈ bindings) (hn : n ∈ triggers) (hr : ∀ r ∈ refs, r ≠ .other) (hg : .globalDecl ∈ refs) :
    taintedByDeclarations bindings = true :=
  List.any_eq_true.mpr ⟨(n, refs), hb,
    Bool.and_eq_true_iff.mpr ⟨List.contains_iff_mem.mpr hn, (only_declared_iff refs).mpr ⟨hr, hg⟩⟩⟩

/-- T09.5e: a binding that is assigned, imported or defined anywhere (some reference of another kind) never taints by declaration. -/
theorem bound_trigger_not_declared_only (refs : List TaintSyntax.RefKind) (h : TaintSyntax.RefKind.other ∈ refs) : isOnlyDeclared refs = false :=
  Bool.eq_false_iff.mpr fun hd => ((only_declared_iff refs).mp hd).1 _ h rfl

-- non-vacuity: a star import inside `try` inside a class inside a function
open PMV PMV.TaintSyntax in
example : taintedByImports ⟨[.pass, .functionDef false "f" (.mk [] [] none [] [] none []) [
    .classDef "C" [] [] [.try_ false [.importFrom (some "os") [⟨"*", none⟩] 0] [] [] []] [] []] [] none []]⟩ = true := by decide +kernel
open PMV.TaintSyntax in
example : taintedByDeclarations [("other", [.globalDecl]), ("eval", [.nameLoad, .globalDecl, .nameLoad])] = true := by decide +kernel
open PMV.TaintSyntax in
example : taintedByDeclarations [("eval", [.nameLoad, .globalDecl, .other]), ("vars", [.nameLoad])] = false := by decide +kernel

end PMV.C09
