import PMV.Generated.Prec
import PMV.Generated.Spacing
import PMV.Proofs.Fold
import PMV.Proofs.Numbers
/-
  C07 — Constant folding never changes a value, its type, or an error.
  `evalLit` is the specification of what a closed literal arithmetic expression evaluates to: integer and bool
  arithmetic by `PyInt.eval` (Python semantics, validated against CPython), float / complex arithmetic and every `/` and
  `**` as an arbitrary oracle.  The theorems hold for *every* oracle, so they do not depend on floating point facts; only
  `NegInvolutive` (negating a complex twice gives it back) is assumed.  The fold model is compared with `FoldConstants`.
-/
namespace PMV.C07
open PMV PMV.Fold PMV.Printer

/-- T07.1/T07.2/T07.4: folding preserves the value, the type tag (bool / int / float / complex are distinct constructors
    of `FVal`) and the error-ness of every literal expression at any depth, for the generated precedence and spacing
    tables and any evaluation oracle with `NegInvolutive`. -/
theorem fold_preserves_value (orc : Oracle) (hneg : NegInvolutive orc) (e : Expr) :
    evalLit orc (foldE Generated.precTable Generated.spacing orc e) = evalLit orc e :=
  foldE_value _ _ orc hneg e

/-- T07.1, the error half: an expression whose evaluation raises is never replaced by something that does not. -/
theorem errors_stay_errors (orc : Oracle) (hneg : NegInvolutive orc) (e : Expr) (h : evalLit orc e = none) :
    evalLit orc (foldE Generated.precTable Generated.spacing orc e) = none := by
  rw [fold_preserves_value orc hneg e, h]

/-- T07.3: a folding step never makes the printed expression longer (strictly shorter when it changes anything:
    `Fold.foldBinOp_shorter`). -/
theorem fold_not_longer (orc : Oracle) (l : Expr) (op : BinOpK) (r : Expr) :
    (exprText Generated.precTable Generated.spacing (foldBinOp Generated.precTable Generated.spacing orc l op r)).length
      ≤ (exprText Generated.precTable Generated.spacing (.binOp l op r)).length :=
  foldBinOp_le Generated.precTable Generated.spacing orc l op r

/-- The guards of `visit_BinOp`: left alone are `/` and `**`, non-literal operands, raising or NaN results. -/
theorem fold_only_when (orc : Oracle) (l : Expr) (op : BinOpK) (r : Expr)
    (h : foldBinOp Generated.precTable Generated.spacing orc l op r ≠ .binOp l op r) :
    ∃ lv rv v, operandVal l = some lv ∧ operandVal r = some rv ∧ op ≠ .div ∧ op ≠ .pow ∧
      evalBin orc op lv rv = some v ∧ isNan v = false ∧
      newNode orc v = some (foldBinOp Generated.precTable Generated.spacing orc l op r) :=
  foldBinOp_changed _ _ orc l op r h

/-- T02.6 (the statement of `C02.int_literal`) as C07 needs it: the text printed for a folded non-negative integer
    denotes that integer, which closes the gap between the value of the new node and the value of its text. -/
theorem folded_int_text (n : Nat) : Spec.Numbers.litValue (Token.natChars n) = some n :=
  Token.litValue_natChars n

/-- `a // b` and `a % b` of the specification satisfy Python's identity `(a // b) * b + a % b == a`. -/
theorem floordiv_mod_identity (a b q m : Int) (hq : PyInt.eval .floorDiv a b = some q) (hm : PyInt.eval .mod a b = some m) :
    q * b + m = a := by
  by_cases hb : b = 0
  · simp [PyInt.eval, hb] at hq
  · simp only [PyInt.eval, if_neg hb, Option.some.injEq] at hq hm
    subst hq hm
    rw [Int.mul_comm]; exact Int.mul_fdiv_add_fmod a b

-- Non-vacuity: a nested fold, an error that is kept, a bool result that stays a bool, a negative result; the empty oracle
-- meets `NegInvolutive`.
example : exprText Generated.precTable Generated.spacing (foldE Generated.precTable Generated.spacing ⟨[], []⟩
    (.binOp (.constant (.int 10)) .mult (.binOp (.constant (.int 5)) .sub (.constant (.int 2))))) = "30" := by
  decide +kernel
example : exprText Generated.precTable Generated.spacing (foldE Generated.precTable Generated.spacing ⟨[], []⟩
    (.binOp (.constant (.int 5)) .floorDiv (.constant (.int 0)))) = "5//0" := by decide +kernel
example : exprText Generated.precTable Generated.spacing (foldE Generated.precTable Generated.spacing ⟨[], []⟩
    (.binOp (.constant .true_) .bitAnd (.constant .false_))) = "False" := by decide +kernel
example : exprText Generated.precTable Generated.spacing (foldE Generated.precTable Generated.spacing ⟨[], []⟩
    (.binOp (.constant (.int 5)) .sub (.constant (.int 10)))) = "-5" := by decide +kernel
example : NegInvolutive ⟨[], []⟩ := by intro r k r' h; simp at h

end PMV.C07
