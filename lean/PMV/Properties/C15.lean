import PMV.Proofs.Cli
/-
  C15 — In-place minification touches only Python files and never corrupts one.
  The file system is abstract (path ↦ bytes); the visit list is what `source_modules` yields; `api`
  returns the minified bytes for the bytes read or fails (unreadable / undecodable / unparsable).
-/
namespace PMV.C15
open PMV.Cli

/-- T15.0: the visit list contains no path twice (repeated arguments, a directory together with a file in it). -/
theorem visit_list_nodup (suffixes : List String) (isDir : String → Bool)
    (walk : String → List (String × String)) (paths : List String) :
    (sourceModules suffixes isDir walk paths).Nodup :=
  nodup_eraseDups _

/-- T15.1: after an in-place run every file holds its original bytes or the complete result for
    those bytes (hypothesis: each path is visited once — see DESIGN §6 C15 for symlink aliases). -/
theorem post_state (force : Bool) (out : String) (api : List UInt8 → Outcome) (fs : FS) (l : List String)
    (hnd : l.Nodup) (p : String) :
    let r := runMain force .inPlace out api fs l
    r.fs.get p = fs.get p ∨
      ∃ src m, fs.get p = some src ∧ api src = .ok m ∧ r.fs.get p = some (written force src m) :=
  run_inplace_get _ hnd p

/-- T15.2: files that are not in the visit list are untouched (no hypothesis on the list). -/
theorem non_targets_untouched (force : Bool) (out : String) (api : List UInt8 → Outcome) (fs : FS)
    (l : List String) (q : String) (h : q ∉ l) :
    (runMain force .inPlace out api fs l).fs.get q = fs.get q :=
  run_inplace_other _ h

/-- T15.2b: the visit list contains only explicit arguments and walked files with a target suffix. -/
theorem visit_list_targets (suffixes : List String) (isDir : String → Bool)
    (walk : String → List (String × String)) (paths : List String) (p : String)
    (h : p ∈ sourceModules suffixes isDir walk paths) :
    p ∈ paths ∨ ∃ d ∈ paths, ∃ name, (p, name) ∈ walk d ∧ isTarget suffixes name = true := by
  obtain ⟨d, hd, hp⟩ := List.mem_flatMap.mp (List.mem_eraseDups.mp h)
  split at hp
  · obtain ⟨⟨_, name⟩, hf, rfl⟩ := List.mem_map.mp hp
    exact .inr ⟨d, hd, name, List.mem_filter.mp hf⟩
  · exact .inl (List.mem_singleton.mp hp ▸ hd)

/-- T15.3: the first file that cannot be read or minified stops the run: exit status non-zero, that
    file and every file after it keep their bytes (each path visited once, as in T15.1). -/
theorem stop_at_first_failure (force : Bool) (out : String) (api : List UInt8 → Outcome) (fs : FS)
    (pre post : List String) (a : String) (hnd : (pre ++ a :: post).Nodup)
    (hfail : fs.get a = none ∨ ∃ src, fs.get a = some src ∧ api src = .fail) :
    let r := runMain force .inPlace out api fs (pre ++ a :: post)
    r.failed = true ∧ ∀ q ∈ a :: post, r.fs.get q = fs.get q := by
  intro r
  let st1 := pre.foldl (visit force .inPlace out api) { fs := fs, stdout := [], failed := false }
  have hst1 : ∀ q ∈ a :: post, st1.fs.get q = fs.get q := fun q hq =>
    run_inplace_other _ fun hqp => (List.nodup_append.mp hnd).2.2 q hqp q hq rfl
  obtain ⟨hf, hfs⟩ := visit_fail force .inPlace out api st1 a (hst1 a List.mem_cons_self ▸ hfail)
  have hr : r = visit force .inPlace out api st1 a := List.foldl_append.trans (foldl_failed post _ hf)
  rw [hr]
  exact ⟨hf, fun q hq => hfs ▸ hst1 q hq⟩

/-- T15.4: without `--in-place` only the `--output` file can change; to stdout nothing changes. -/
theorem output_only (force : Bool) (out : String) (api : List UInt8 → Outcome) (fs : FS) (l : List String) :
    (∀ q, q ≠ out → (runMain force .output out api fs l).fs.get q = fs.get q)
    ∧ (runMain force .stdout out api fs l).fs = fs :=
  ⟨fun q hq => run_get_other l _ fun _ _ => by rintro ⟨rfl⟩; exact hq rfl, run_stdout_fs l _⟩

-- Non-vacuity: a two-file run where the second file fails.
example :
    let api : List UInt8 → Outcome := fun b => if b == [1, 1, 1] then .ok [7] else .fail
    let r := runMain false .inPlace "" api [("a.py", [1, 1, 1]), ("b.py", [2])] ["a.py", "b.py"]
    r.failed = true ∧ r.fs.get "a.py" = some [7] ∧ r.fs.get "b.py" = some [2] := by decide +kernel

/-- T15.1 for the list the tool really visits: no hypothesis left. -/
theorem post_state_visited (force : Bool) (out : String) (api : List UInt8 → Outcome) (fs : FS)
    (suffixes : List String) (isDir : String → Bool) (walk : String → List (String × String)) (paths : List String) (p : String) :
    let r := runMain force .inPlace out api fs (sourceModules suffixes isDir walk paths)
    r.fs.get p = fs.get p ∨
      ∃ src m, fs.get p = some src ∧ api src = .ok m ∧ r.fs.get p = some (written force src m) :=
  post_state force out api fs _ (visit_list_nodup suffixes isDir walk paths) p

end PMV.C15
