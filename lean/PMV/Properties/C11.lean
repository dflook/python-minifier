import PMV.Generated.Pipeline
import PMV.Generated.Names
import PMV.Model.Pipeline
import PMV.Proofs.RenameOrder
/-
  C11 — Output depends only on source, options and interpreter version.
  Proved on the assigner model: every collection that is a `set` in the implementation (reservation
  scopes, assigned names, the preserved names) is used through membership only, so no iteration order
  (hence no hash seed) can influence which names are chosen.  The generated pipeline table shows that
  `minify()` extends fresh lists / copies, never the caller's list objects.  Process-level facts
  (fresh interpreters under different PYTHONHASHSEED, call histories with reused argument objects,
  concurrent threads) are decided by the harness on the real code; thread schedules are sampled.
-/
namespace PMV.C11
open PMV.Rename

/-- T11.1a: availability and reservation depend on a reservation scope only as a set. -/
theorem scope_order_irrelevant (a : Assigned) (n : String) (sc sc' : List Ns) (h : ∀ ns, ns ∈ sc ↔ ns ∈ sc') :
    avail a n sc = avail a n sc' ∧ reserve n sc a = reserve n sc' a := by
  constructor
  · rw [Bool.eq_iff_iff, avail_iff, avail_iff]; simp only [h]
  · funext ns; simp only [reserve, List.contains_eq_mem, h ns]

/-- T11.1b: the loop depends on the assigned-names sets only as sets. -/
theorem assigned_order_irrelevant (pg : Bool) (bs : List Binding) (a a' : Assigned) (h : AssignedEquiv a a') :
    loop Generated.nameSeq pg a bs = loop Generated.nameSeq pg a' bs :=
  loop_congr _ pg bs a a' h

/-- T11.1c: listing the preserved globals in another order (they come from a set) gives the same names. -/
theorem preserved_order_irrelevant (pg : Bool) (moduleNs : Ns) (rg rg' : List String) (h : ∀ x, x ∈ rg ↔ x ∈ rg')
    (bindings : List Binding) :
    assign Generated.nameSeq pg moduleNs rg bindings = assign Generated.nameSeq pg moduleNs rg' bindings :=
  assign_preserved_order_irrelevant _ pg moduleNs rg rg' h bindings

/-- G11.2: the generated top level of `minify()` copies a caller-supplied list before extending it
    (`preserve_locals = list(preserve_locals)`), wraps a string, and starts from a fresh list for `None`. -/
theorem caller_lists_copied :
    Generated.pipeline = Pipeline.modelled
    ∧ ("preserve_locals is None", Pipeline.preserveLocalsBlock) ∈ Pipeline.modelled
    ∧ ("preserve_globals is None", Pipeline.preserveGlobalsBlock) ∈ Pipeline.modelled :=
  ⟨rfl, List.mem_of_getElem? (i := 19) (by rfl), List.mem_of_getElem? (i := 20) (by rfl)⟩

example : AssignedEquiv (fun _ => ["A", "B"]) (fun _ => ["B", "A", "A"]) := fun _ _ => by simp [or_comm]

end PMV.C11
