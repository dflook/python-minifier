import PMV.Generated.Names
import PMV.Generated.Pipeline
import PMV.Model.Pipeline
import PMV.Proofs.Rename
import PMV.Proofs.Exports
import PMV.Proofs.Freeze
/-
  C10 — Names the user asks to preserve are preserved.
  `allow_rename_locals/globals` pin every binding whose name is listed (on one binding: `applyPreserve`; the traversal
  over all namespaces: model `PMV.Freeze`, T10.4); a pinned binding keeps its name (T10.1), and its name is reserved in its
  whole scope before any name is assigned, so no other binding in that scope can take it (`C03.no_new_clash`).  The names
  exported through `__all__` are preserved with the listed ones: `find__all__` is exact (T10.2, model `PMV.Exports`,
  compared with the real function) and its result joins `preserve_globals` (T10.3).  `applyPreserve` has no correspondence
  of its own; the preserve oracle runs on the real code, through the API and the command line.
-/
namespace PMV.C10
open PMV.Rename

/-- `allow_rename_locals(module, rename_locals, preserve_locals)` / `allow_rename_globals(...)` on one binding:
    disallowed when its kind of renaming is off or its name is listed. -/
def applyPreserve (renameLocals renameGlobals : Bool) (preserveLocals preserveGlobals : List String) (b : Binding) : Binding :=
  let listed := match b.name with
    | some n => if b.isModule then preserveGlobals.contains n else preserveLocals.contains n
    | none => false
  let off := if b.isModule then !renameGlobals else !renameLocals
  if (off || listed) && b.kind != .hoisted then { b with allow := false, reserved := b.name } else b

def listed (preserveLocals preserveGlobals : List String) (b : Binding) : Bool :=
  match b.name with
  | some n => if b.isModule then preserveGlobals.contains n else preserveLocals.contains n
  | none => false

theorem applyPreserve_eq (rl rgl : Bool) (pl pgl : List String) (b : Binding) :
    applyPreserve rl rgl pl pgl b =
      if ((if b.isModule then !rgl else !rl) || listed pl pgl b) && b.kind != .hoisted
      then { b with allow := false, reserved := b.name } else b := rfl

theorem applyPreserve_spec (rl rgl : Bool) (pl pgl : List String) (b0 : Binding) :
    (applyPreserve rl rgl pl pgl b0).name = b0.name ∧ (applyPreserve rl rgl pl pgl b0).kind = b0.kind ∧
    (applyPreserve rl rgl pl pgl b0).isModule = b0.isModule ∧
    (listed pl pgl b0 = true → b0.kind ≠ .hoisted → (applyPreserve rl rgl pl pgl b0).allow = false) := by
  rw [applyPreserve_eq]
  by_cases hc : (((if b0.isModule then !rgl else !rl) || listed pl pgl b0) && b0.kind != .hoisted) = true
  · rw [if_pos hc]; exact ⟨rfl, rfl, rfl, fun _ _ => rfl⟩
  · rw [if_neg hc]; exact ⟨rfl, rfl, rfl, fun hl hk => absurd (by simp [hl, hk]) hc⟩

/-- T10.1: a listed name is never renamed, for every program's bindings and every other option (`hk`: `applyPreserve`
    leaves hoisted literals alone). -/
theorem preserved_names_kept (pg rl rgl : Bool) (moduleNs : Ns) (rg pl pgl : List String) (bindings : List Binding) (r : Result)
    (h : r ∈ assign Generated.nameSeq pg moduleNs rg (bindings.map (applyPreserve rl rgl pl pgl)))
    (n : String) (hn : r.b.name = some n) (hk : r.b.kind ≠ .hoisted) (hl : listed pl pgl r.b = true) :
    r.final = some n ∧ r.renamed = false := by
  obtain ⟨b0, _, hb0⟩ := List.mem_map.mp (assign_mem_b h)
  obtain ⟨h1, h2, h3, h4⟩ := applyPreserve_spec rl rgl pl pgl b0
  have hallow : r.b.allow = false := by
    rw [← hb0] at hl hk ⊢
    exact h4 (by simpa [listed, h1, h3] using hl) (h2 ▸ hk)
  have := pinned_kept h hallow
  exact ⟨this.1.trans hn, this.2⟩

/-- T10.2: `find__all__` returns exactly the strings of the list displays that some simple statement running at module
    level (inside blocks, not inside `def` / `class`) assigns to `__all__` -/
theorem findAll_exact (m : Module) (s : String) : s ∈ Exports.findAll m ↔ Exports.Exported m s :=
  ⟨Exports.allL_sound s m.body, fun ⟨st', v, hr, h1, h2, h3⟩ => Exports.allL_complete s st' v h1 h2 h3 hr⟩

/-- T10.3: `allow_rename_globals` extends `preserve_globals` by `find__all__(module)`; hence a module-level binding
    whose name is exported through `__all__` is never renamed, whatever the other options and lists are. -/
theorem exported_names_kept (m : Module) (pg rl rgl : Bool) (moduleNs : Ns) (rg pl pgl : List String) (bindings : List Binding) (r : Result)
    (h : r ∈ assign Generated.nameSeq pg moduleNs rg (bindings.map (applyPreserve rl rgl pl (pgl ++ Exports.findAll m))))
    (n : String) (hn : r.b.name = some n) (hk : r.b.kind ≠ .hoisted) (hm : r.b.isModule = true) (he : Exports.Exported m n) :
    r.final = some n ∧ r.renamed = false := by
  apply preserved_names_kept pg rl rgl moduleNs rg pl (pgl ++ Exports.findAll m) bindings r h n hn hk
  have : n ∈ Exports.findAll m := (findAll_exact m n).mpr he
  simp [listed, hn, hm, this]

/-- the preserve lists reach `allow_rename_*` and `rename` as in the modelled pipeline -/
theorem pipeline_as_modelled : Generated.pipeline = Pipeline.modelled := rfl

example : (applyPreserve true true ["keep_me"] [] ⟨0, .name, some "keep_me", 0, true, none, 1, false, [], []⟩).allow = false := by
  decide +kernel

/-- non-vacuity: a nested, annotated `__all__` is seen; one inside a function is not -/
example : Exports.findAll ⟨[.if_ (.constant .true_) [.annAssign (.name "__all__" .store) (.name "list" .load)
      (some (.list [.constant (.str "'a'" [97]), .constant (.int 1), .constant (.str "'b'" [98])])) true] [],
    .functionDef false "f" (.mk [] [] none [] [] none [])
      [.assign [.name "__all__" .store] (.list [.constant (.str "'c'" [99])])] [] none []]⟩ = ["a", "b"] := by
  decide +kernel

/-- T10.4a: a binding of any namespace other than the module whose name is in `preserve_locals` is frozen, wherever it is. -/
theorem listed_locals_frozen (rl : Bool) (pl : List String) (n : Freeze.Node) (b : Nat × Option String) (x : String)
    (h : Freeze.LocalBinding n b) (hn : b.2 = some x) (hx : x ∈ pl) : b.1 ∈ Freeze.freezeLocals rl pl n :=
  (Freeze.freezeLocals_spec rl pl n b.1).mpr ⟨b, h, rfl, by simp [Freeze.frozenLocal, Freeze.listedIn, hn, hx]⟩

/-- T10.4b: a module binding whose name is in `preserve_globals` or in a literal `__all__` (`find__all__`, T10.2) is frozen. -/
theorem listed_and_exported_globals_frozen (rg : Bool) (pg ex : List String) (od : List Nat) (bs : List (Nat × Option String))
    (b : Nat × Option String) (x : String) (h : b ∈ bs) (hn : b.2 = some x) (hx : x ∈ pg ∨ x ∈ ex) :
    b.1 ∈ Freeze.freezeGlobals rg pg ex od bs :=
  (Freeze.freezeGlobals_spec rg pg ex od bs b.1).mpr ⟨b, h, rfl, .inr (.inl (by
    rw [hn]; exact List.contains_iff_mem.mpr (List.mem_append.mpr hx)))⟩

/-- T10.4c: and `allow_rename_locals` freezes nothing else: exactly the listed names, or everything when local renaming is off
    (`allow_rename_globals`, with the exported and only-declared names besides: `Freeze.freezeGlobals_spec`). -/
theorem frozen_exactly (rl : Bool) (pl : List String) (n : Freeze.Node) (i : Nat) :
    i ∈ Freeze.freezeLocals rl pl n ↔ ∃ b, Freeze.LocalBinding n b ∧ b.1 = i ∧ (rl = false ∨ Freeze.listedIn pl b.2 = true) := by
  simp only [Freeze.freezeLocals_spec, Freeze.frozenLocal, Bool.or_eq_true, Bool.not_eq_true']

end PMV.C10
