import PMV.Proofs.Cli
/-
  C14 — The command line tool never emits more bytes than it was given.
-/
namespace PMV.C14
open PMV.Cli

/-- T14.1 (core): without the environment override, what `do_minify`/the handlers hand to any sink
    is never longer than the source, and is the source itself when the minified bytes are longer. -/
theorem never_larger (src minified : List UInt8) :
    (written false src minified).length ≤ src.length
    ∧ (minified.length > src.length → written false src minified = src) :=
  ⟨written_le src minified, fun h => by rw [written_eq, if_neg fun h' => h'.elim Bool.false_ne_true (Nat.not_le.mpr h)]⟩

/-- Only the override turns the rule off: with it the minified bytes are always emitted. -/
theorem override_only (src minified : List UInt8) : written true src minified = minified := by
  rw [written_eq, if_pos (.inl rfl)]

/-- stdin → stdout / `--output`: the bytes that reach the sink obey the rule. -/
theorem stdin_modes (a : Args) (isDir : String → Bool) (api : List UInt8 → Outcome) (fs : FS)
    (stdin m : List UInt8) (vl : List String) (hp : a.paths = ["-"]) (hv : invalid a isDir = false)
    (hapi : api stdin = .ok m) :
    let r := cliMain false a isDir api fs stdin vl
    (a.output = none → r.stdout.length ≤ stdin.length ∧ r.fs = fs)
    ∧ (∀ o, a.output = some o → ∃ w, r.fs.get o = some w ∧ w.length ≤ stdin.length) := by
  refine ⟨?_, ?_⟩
  · intro ho; simp [cliMain, hv, hp, hapi, ho, written_le]
  · intro o ho
    refine ⟨written false stdin m, ?_, written_le stdin m⟩
    simp [cliMain, hv, hp, hapi, ho, FS.get_set]

/-- One file in path mode, for each of the three sinks: the location written holds at most
    `|src|` bytes (in-place: the file itself; `--output`: the output file; otherwise stdout grows by
    at most `|src|`). -/
theorem path_modes (api : List UInt8 → Outcome) (st : RunState) (out path : String) (src m : List UInt8)
    (hnf : st.failed = false) (hget : st.fs.get path = some src) (hapi : api src = .ok m) :
    ((visit false .inPlace out api st path).fs.get path = some (written false src m))
    ∧ ((visit false .output out api st path).fs.get out = some (written false src m))
    ∧ ((visit false .stdout out api st path).stdout = st.stdout ++ written false src m)
    ∧ (written false src m).length ≤ src.length := by
  refine ⟨?_, ?_, ?_, written_le src m⟩ <;> simp [visit, hnf, hget, hapi, FS.get_set]

example : written false [1, 2, 3] [9, 9, 9, 9] = [1, 2, 3] := by decide +kernel
example : written false [1, 2, 3] [9, 9, 9] = [9, 9, 9] := by decide +kernel
example : written true [1, 2, 3] [9, 9, 9, 9] = [9, 9, 9, 9] := by decide +kernel

end PMV.C14
