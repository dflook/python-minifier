import PMV.Proofs.PyCoreInst
import PMV.Proofs.PyCoreBindInst
import PMV.Proofs.PyCoreRename2
import PMV.Proofs.PyCoreHoist2
import PMV.Proofs.PyCoreAnn
/-
  C01 — With the safe options a minified program behaves like the original.
  `Spec.PyCore` gives a first-order core of Python (ints, bools, strings, None; assignment, `if`, `while`/`else`,
  `for … in range(…)`/`else`, `break`/`continue`, `try`/`except`/`else`/`finally`, `print`, `assert`, `raise`, `global`,
  `import` / `from … import`, calls of module-level functions) a fuel-indexed definitional semantics whose observable is
  what C01 names: printed lines, how the run ends, final globals, import events.  The theorems hold for every module and
  every fuel, in three strengths: observable unchanged; refinement (unchanged unless the original run leaves the core,
  ending `stuck`); unchanged up to the new global names (`ObsEq`, hoisting).  remove_asserts / remove_debug: under
  `python -O` (`runO`) only, given `scopeStable` (T01.10; needed: T01.10′).
  Renaming and hoisting are applied by `PMV.RenameAst` / `PMV.HoistAst` to a witness (which name goes where) under the
  decidable `modOK` / `hoistOK`; the check reads the witness off the real minifier's output, evaluates the condition on
  it and compares model and `minify()` text for text.  PyCore is compared with CPython's `exec`.
  Not proved: renaming of globals, annotations that are evaluated, nested functions, closures, classes (outside the
  core) — the differential-execution oracle on the real code and the structural theorems of C02–C06/C09/C10 stand there.
-/
namespace PMV.C01
open PMV PMV.Transforms PMV.PyCore PMV.Minify PMV.RenameAst PMV.HoistAst

/-- T01.1 -/
theorem remove_pass_preserves (n : Nat) (m : Module) : run n (travModule removePass m) = run n m :=
  removePass_neutral.runWith false n m

theorem remove_literals_runWith (o : Bool) (n : Nat) (m : Module) :
    runWith o n (removeLiteralStatements m) = runWith o n m := by
  unfold removeLiteralStatements
  split
  · rfl
  · exact literals_neutral.runWith o n m

/-- T01.2 (including the guard that leaves the module alone when it mentions `__doc__`) -/
theorem remove_literals_preserves (n : Nat) (m : Module) : run n (removeLiteralStatements m) = run n m :=
  remove_literals_runWith false n m

/-- T01.3 -/
theorem return_none_preserves (n : Nat) (m : Module) : run n (travModule removeReturnNone m) = run n m :=
  returnNone_neutral.runWith false n m

/-- T01.4 -/
theorem exception_brackets_preserves (el : List String) (n : Nat) (m : Module) :
    run n (travModule (removeBrackets el) m) = run n m :=
  (brackets_neutral el).runWith false n m

/-- T01.5 -/
theorem remove_object_preserves (n : Nat) (m : Module) : run n (travModule removeObject m) = run n m :=
  object_neutral.runWith false n m

/-- T01.7: constant folding refines the behaviour of every module, for any oracle: of the operands folding looks at
    (None, bool, int, float, complex) the core computes with int and bool only, by `PyInt.eval` as the folding model does. -/
theorem constant_folding_preserves (t : Printer.PrecTable) (sp : Token.Spacing) (orc : Fold.Oracle) (n : Nat) (m : Module)
    (hcore : (run n m).ending ≠ "stuck") : run n (foldModule t sp orc m) = run n m :=
  run_map (foldMap t sp orc) (fold_exprOK t sp orc) n m hcore

/-- T01.8: turning positional-only parameters into ordinary ones refines the behaviour of every module
    (PyCore has positional calls only: the documented keyword-collision corner is outside it). -/
theorem convert_posargs_preserves (n : Nat) (m : Module) (hcore : (run n m).ending ≠ "stuck") :
    run n (removePosargs m) = run n m :=
  run_removePosargs n m hcore

/-- T01.10 (the `-O` clause of C05, as behaviour): under `python -O` semantics (`runO`: `__debug__` is False, `assert`
    statements are not executed) remove_asserts leaves the observable unchanged, provided every function body binds the
    same names afterwards (`scopeStable`, evaluated per program by the check): which names are local to a function is decided
    statically, so removing the only binding of a name — `assert (x := …)`, `if __debug__: x = 1` — makes it a global,
    under `-O` too (F38). -/
theorem remove_asserts_preserves_under_O (n : Nat) (m : Module) (hs : scopeStable removeAsserts m = true) :
    runO n (travModule removeAsserts m) = runO n m :=
  guardT_runWith isAssert isAssert_noop n m hs

/-- T01.10 for remove_debug, under the same condition: the removed `if __debug__:` blocks (the documented spellings, no
    `else`) do nothing under `python -O`. -/
theorem remove_debug_preserves_under_O (n : Nat) (m : Module) (hs : scopeStable removeDebug m = true) :
    runO n (travModule removeDebug m) = runO n m :=
  guardT_runWith canRemoveDebug canRemoveDebug_noop n m hs

/-- T01.12: combine_imports leaves the observable unchanged, import events (which module, bound to which name, in which
    order) included.  Under both semantics. -/
theorem combine_imports_preserves (n : Nat) (m : Module) : run n (travModule combineImports m) = run n m :=
  combineImports_neutral.runWith false n m

theorem combine_imports_preserves_under_O (n : Nat) (m : Module) : runO n (travModule combineImports m) = runO n m :=
  combineImports_neutral.runWith true n m

/-- T01.9: fuel only bounds loop iterations and call depth: a run that ends within fuel `n` (anything but `timeout`)
    is the same at every larger fuel — "for every fuel" speaks about the program, not about the bound. -/
theorem more_fuel_same_behaviour (n k : Nat) (m : Module) (h : (run n m).ending ≠ "timeout") :
    run (n + k) m = run n m :=
  run_more_fuel n k m h

/-- T01.17: annotation removal refines the behaviour: annotated names inside functions are assigned like plain ones, a
    value-less annotation keeps the name local (`x: 0`); annotated `def`s and module-level annotated assignments — whose
    annotations are evaluated — are outside the core.  Needs distinct module-level `def` names. -/
theorem remove_annotations_preserves (a : AnnOpts) (n : Nat) (m : Module) (hnd : (defNames m.body).Nodup)
    (hcore : (run n m).ending ≠ "stuck") : run n (removeAnnotations a m) = run n m :=
  run_removeAnnotations a n m hnd hcore

/-! T01.1–T01.5 under `python -O` semantics -/

theorem remove_pass_preserves_under_O (n : Nat) (m : Module) : runO n (travModule removePass m) = runO n m :=
  removePass_neutral.runWith true n m

theorem remove_literals_preserves_under_O (n : Nat) (m : Module) : runO n (removeLiteralStatements m) = runO n m :=
  remove_literals_runWith true n m

theorem return_none_preserves_under_O (n : Nat) (m : Module) : runO n (travModule removeReturnNone m) = runO n m :=
  returnNone_neutral.runWith true n m

theorem exception_brackets_preserves_under_O (el : List String) (n : Nat) (m : Module) :
    runO n (travModule (removeBrackets el) m) = runO n m :=
  (brackets_neutral el).runWith true n m

theorem remove_object_preserves_under_O (n : Nat) (m : Module) : runO n (travModule removeObject m) = runO n m :=
  object_neutral.runWith true n m

/-- `x = 5` / `def f(): (if __debug__: x = 1); print(x)` / `f()`: the removed block holds the only binding of `x` in `f`
    (CPython, replayed, behaves as the model says) -/
def scopingWitness : Module := ⟨[
  .assign [.name "x" .store] (.constant (.int 5)),
  .functionDef false "f" (.mk [] [] none [] [] none []) [
    .if_ (.name "__debug__" .load) [.assign [.name "x" .store] (.constant (.int 1))] [],
    .expr (.call (.name "print" .load) [.name "x" .load] [])] [] none [],
  .expr (.call (.name "f" .load) [] [])]⟩

theorem witness_original_under_O : (runO 3 scopingWitness).ending = "raised:UnboundLocalError" := by
  simp [runO, scopingWitness, collect, defOf, paramNames, execL, exec1, callOf, simpleExec, isAssertStmt, assignTarget, evalThen, evalE,
    St.init, St.assign, Env.set, Env.get, callFn, evalArgs, List.lookup, bindTop, bindS, oguard, oapp, coreE, coreX, bindL, declaredGlobals, globalsOf,
    condE, isDbgName, Val.truthy, exprStmt, isConst, printArgs, St.lookup, St.unbound, St.isLocal, asCall, observe, canonNames, insertName, isPlainDef]

theorem witness_minified_under_O : (runO 3 (travModule removeDebug scopingWitness)).ending = "normal" := by
  simp [runO, scopingWitness, travModule, travBody, travStmt, removeDebug, guardT, dropGuard, isStrStmt, filterSuite, canRemoveDebug, isDebugName, zeroStmt,
    collect, defOf, paramNames, execL, exec1, callOf, simpleExec, isAssertStmt, assignTarget, evalThen, evalE,
    St.init, St.assign, Env.set, Env.get, callFn, evalArgs, List.lookup, bindTop, bindS, oguard, oapp, coreE, coreX, declaredGlobals, globalsOf,
    exprStmt, isConst, printArgs, St.lookup, St.isLocal, asCall, observe, canonNames, isPlainDef]

/-- T01.10′ (negative, F38): without the side condition remove_debug does not preserve the behaviour under `-O` -/
theorem remove_debug_changes_scoping :
    ∃ (n : Nat) (m : Module), runO n (travModule removeDebug m) ≠ runO n m ∧ scopeStable removeDebug m = false := by
  refine ⟨3, scopingWitness, fun h => ?_, by decide +kernel⟩
  have h2 := witness_minified_under_O
  rw [h, witness_original_under_O] at h2
  exact absurd h2 (by decide)

/-- … and the side condition is satisfiable: a module whose `if __debug__` block binds nothing -/
example : scopeStable removeDebug ⟨[
    .functionDef false "f" (.mk [] [] none [] [] none []) [
      .if_ (.name "__debug__" .load) [.expr (.call (.name "print" .load) [.constant (.int 1)] [])] [],
      .return_ none] [] none []]⟩ = true := by decide +kernel

/-- remove_asserts and remove_debug, which change the behaviour unless the program runs under `python -O`, are off -/
def CoreOnly (o : Opts) : Prop :=
  o.removeAsserts = false ∧ o.removeDebug = false

abbrev beforeAnnotations (o : Opts) (m : Module) : Module := beforeAnnotationsM o m

/-- the module that reaches remove_asserts in the pipeline -/
def beforeAsserts (o : Opts) (m : Module) : Module :=
  let m := if o.removeLiteralStatements then removeLiteralStatements m else m
  let m := if o.combineImports then travModule combineImports m else m
  let m := if o.annotations.any then removeAnnotations o.annotations m else m
  let m := if o.removePass then travModule removePass m else m
  if o.removeObjectBase then travModule removeObject m else m

def beforeDebug (o : Opts) (m : Module) : Module :=
  let m := beforeAsserts o m
  if o.removeAsserts then travModule removeAsserts m else m

/-- one stage of the pipeline; the stage may use that its input `m` still behaves like the original `m0`, hence is
    inside the core when `m0` is -/
theorem runWith_stage {ob : Bool} {n : Nat} {m0 m : Module} (c : Bool) (f : Module → Module)
    (e : runWith ob n m = runWith ob n m0)
    (h : c = true → runWith ob n m = runWith ob n m0 → runWith ob n (f m) = runWith ob n m) :
    runWith ob n (if c then f m else m) = runWith ob n m0 := by
  cases c
  · exact e
  · rw [if_pos rfl, h rfl e, e]

/-- T01.6 and T01.11 at once (`ob`: the semantics of `python -O`): every stage of the modelled transform pipeline, in
    pipeline order, keeps the observable of a module that stays inside the core; remove_annotations under the condition
    of T01.17 (`hN`), remove_asserts and remove_debug under those of T01.10 (`hA`, `hD`), each on the module that reaches it. -/
theorem transformM_preserves (ob : Bool) (t : Printer.PrecTable) (sp : Token.Spacing) (orc : Fold.Oracle) (el : List String)
    (o : Opts) (n : Nat) (m : Module)
    (hN : o.annotations.any = true → (defNames (beforeAnnotations o m).body).Nodup)
    (hA : o.removeAsserts = true → ob = true ∧ scopeStable removeAsserts (beforeAsserts o m) = true)
    (hD : o.removeDebug = true → ob = true ∧ scopeStable removeDebug (beforeDebug o m) = true)
    (hcore : (runWith ob n m).ending ≠ "stuck") :
    runWith ob n (transformM t sp orc el o m) = runWith ob n m := by
  have core : ∀ {m' : Module}, runWith ob n m' = runWith ob n m → (runWith ob n m').ending ≠ "stuck" :=
    fun e => by rw [e]; exact hcore
  unfold transformM
  refine runWith_stage _ _ (runWith_stage _ _ (runWith_stage _ _ (runWith_stage _ _ (runWith_stage _ _ (runWith_stage _ _
    (runWith_stage _ _ (runWith_stage _ _ (runWith_stage _ _ (runWith_stage _ _ (runWith_stage _ _ rfl ?lit) ?imp) ?ann)
    ?pass) ?obj) ?asserts) ?debug) ?ret) ?fold) ?brackets) ?pos
  case lit => exact fun _ _ => remove_literals_runWith ob n m
  case imp => exact fun _ _ => combineImports_neutral.runWith _ n _
  case ann => exact fun h e => runWith_removeAnnotations _ n _ (hN h) (core e)
  case pass => exact fun _ _ => removePass_neutral.runWith _ n _
  case obj => exact fun _ _ => object_neutral.runWith _ n _
  case asserts => intro h _; obtain ⟨rfl, hs⟩ := hA h; exact remove_asserts_preserves_under_O n _ hs
  case debug => intro h _; obtain ⟨rfl, hs⟩ := hD h; exact remove_debug_preserves_under_O n _ hs
  case ret => exact fun _ _ => returnNone_neutral.runWith _ n _
  case fold => exact fun _ e => runWith_map (foldMap t sp orc) (fold_exprOK t sp orc) n _ (core e)
  case brackets => exact fun _ _ => (brackets_neutral el).runWith _ n _
  case pos => exact fun _ e => runWith_map posMap pos_exprOK n _ (core e)

/-- T01.6: the modelled transform pipeline without remove_asserts and remove_debug (any subset of the other nine
    transforms, in pipeline order) refines the observable behaviour of every module that stays inside the core (`hN`: as
    in T01.17). -/
theorem pipeline_partial (t : Printer.PrecTable) (sp : Token.Spacing) (orc : Fold.Oracle) (el : List String)
    (o : Opts) (ho : CoreOnly o) (n : Nat) (m : Module)
    (hN : o.annotations.any = true → (defNames (beforeAnnotations o m).body).Nodup)
    (hcore : (run n m).ending ≠ "stuck") :
    run n (transformM t sp orc el o m) = run n m :=
  transformM_preserves false t sp orc el o n m hN (fun h => by rw [ho.1] at h; cases h) (fun h => by rw [ho.2] at h; cases h) hcore

/-- T01.11: under `python -O` semantics the whole modelled transform pipeline, remove_asserts and remove_debug included,
    refines the observable behaviour, given `scopeStable` of the module that reaches each of the two (T01.10) and `hN`. -/
theorem pipeline_partial_under_O (t : Printer.PrecTable) (sp : Token.Spacing) (orc : Fold.Oracle) (el : List String)
    (o : Opts) (n : Nat) (m : Module)
    (hN : o.annotations.any = true → (defNames (beforeAnnotations o m).body).Nodup)
    (hA : o.removeAsserts = true → scopeStable removeAsserts (beforeAsserts o m) = true)
    (hD : o.removeDebug = true → scopeStable removeDebug (beforeDebug o m) = true)
    (hcore : (runO n m).ending ≠ "stuck") :
    runO n (transformM t sp orc el o m) = runO n m :=
  transformM_preserves true t sp orc el o n m hN (fun h => ⟨rfl, hA h⟩) (fun h => ⟨rfl, hD h⟩) hcore


/-- T01.13: renaming the local names of functions leaves the observable of every module unchanged, at every fuel, given
    `modOK` (injective on the names of the function, moves only locals, never onto a kept parameter, the static
    local / global decision agrees).  `R` gives each module-level function its renaming and the parameters that are
    copied (`new = parameter` after the docstring, as the renamer does). -/
theorem local_renaming_preserves (R : RenTable) (m : Module) (h : modOK R m = true) (n : Nat) :
    run n (renModule R m) = run n m := run_renModule R m h n

theorem local_renaming_preserves_under_O (R : RenTable) (m : Module) (h : modOK R m = true) (n : Nat) :
    runO n (renModule R m) = runO n m := runWith_renModule R m h n

/-- T01.6 then T01.13: the transform pipeline followed by the renaming of locals — `minify()` without literal hoisting —
    refines the behaviour of every module that stays inside the core, given `modOK` of the pipeline's output -/
theorem pipeline_then_renaming (t : Printer.PrecTable) (sp : Token.Spacing) (orc : Fold.Oracle) (el : List String)
    (o : Opts) (ho : CoreOnly o) (R : RenTable) (n : Nat) (m : Module)
    (hN : o.annotations.any = true → (defNames (beforeAnnotations o m).body).Nodup)
    (hR : modOK R (transformM t sp orc el o m) = true) (hcore : (run n m).ending ≠ "stuck") :
    run n (renModule R (transformM t sp orc el o m)) = run n m := by
  rw [local_renaming_preserves R _ hR n]
  exact pipeline_partial t sp orc el o ho n m hN hcore

/-! non-vacuity: `def f(a): b = a + 1; print(b); return b` / `r = f(1)` with `a ↦ A` (copied), `b ↦ B` satisfies the
    condition; mapping `b` onto the parameter `a` does not. -/

def renamingWitness : Module := ⟨[
  .functionDef false "f" (.mk [] [.mk "a" none] none [] [] none []) [
    .assign [.name "b" .store] (.binOp (.name "a" .load) .add (.constant (.int 1))),
    .expr (.call (.name "print" .load) [.name "b" .load] []),
    .return_ (some (.name "b" .load))] [] none [],
  .assign [.name "r" .store] (.call (.name "f" .load) [.constant (.int 1)] [])]⟩

def goodRenaming : RenTable := fun _ => (fun x => if x == "a" then "A" else if x == "b" then "B" else x, ["a"])
def badRenaming : RenTable := fun _ => (fun x => if x == "b" then "a" else x, [])

example : modOK goodRenaming renamingWitness = true := by decide +kernel
example : modOK badRenaming renamingWitness = false := by decide +kernel


/-- T01.14: hoisting literals into module-level and function-level names (the assignments after the docstrings,
    possibly between the renamer's parameter copies) keeps printed lines, ending and import events, and the final value of
    every global that is not one of the new names, given `hoistOK` (fresh names, constants with a core value, the static
    local / global decision agrees).  `w` says which constants go where. -/
theorem hoisting_preserves (w : HoistW) (m : Module) (h : hoistOK w m = true) (n : Nat) :
    ObsEq (gnames w.gmod) (run n (hoistModule w m)) (run n m) := run_hoistModule w m h n

/-- T01.15: `minify()` on the core, remove_asserts and remove_debug off (the default) — the transform pipeline, then the
    renaming of function locals, then the hoisting of literals — refines the behaviour of every module that stays inside the
    core, up to the global names introduced for hoisted literals, given `hN` and `modOK` / `hoistOK` at their steps. -/
theorem minify_core_preserves (t : Printer.PrecTable) (sp : Token.Spacing) (orc : Fold.Oracle) (el : List String)
    (o : Opts) (ho : CoreOnly o) (R : RenTable) (w : HoistW) (n : Nat) (m : Module)
    (hN : o.annotations.any = true → (defNames (beforeAnnotations o m).body).Nodup)
    (hR : modOK R (transformM t sp orc el o m) = true)
    (hW : hoistOK w (renModule R (transformM t sp orc el o m)) = true)
    (hcore : (run n m).ending ≠ "stuck") :
    ObsEq (gnames w.gmod) (run n (hoistModule w (renModule R (transformM t sp orc el o m)))) (run n m) := by
  rw [← pipeline_then_renaming t sp orc el o ho R n m hN hR hcore]
  exact hoisting_preserves w _ hW n

theorem hoisting_preserves_under_O (w : HoistW) (m : Module) (h : hoistOK w m = true) (n : Nat) :
    ObsEq (gnames w.gmod) (runO n (hoistModule w m)) (runO n m) := runWith_hoistModule w m h n

/-- T01.16: the same chain under `python -O` semantics, with remove_asserts and remove_debug in the pipeline (`hA`, `hD` as in T01.11) -/
theorem minify_core_preserves_under_O (t : Printer.PrecTable) (sp : Token.Spacing) (orc : Fold.Oracle) (el : List String)
    (o : Opts) (R : RenTable) (w : HoistW) (n : Nat) (m : Module)
    (hN : o.annotations.any = true → (defNames (beforeAnnotations o m).body).Nodup)
    (hA : o.removeAsserts = true → scopeStable removeAsserts (beforeAsserts o m) = true)
    (hD : o.removeDebug = true → scopeStable removeDebug (beforeDebug o m) = true)
    (hR : modOK R (transformM t sp orc el o m) = true)
    (hW : hoistOK w (renModule R (transformM t sp orc el o m)) = true)
    (hcore : (runO n m).ending ≠ "stuck") :
    ObsEq (gnames w.gmod) (runO n (hoistModule w (renModule R (transformM t sp orc el o m)))) (runO n m) := by
  rw [← pipeline_partial_under_O t sp orc el o n m hN hA hD hcore, ← local_renaming_preserves_under_O R _ hR n]
  exact hoisting_preserves_under_O w _ hW n

/-! non-vacuity: `def f(a): print('lit', 'lit', a); return None` / `print('lit')` / `r = f(None)` with the string held by a
    module-level name and `None` by a local of `f` satisfies the condition; a name that the program already uses does not. -/

def hoistWitnessModule : Module := ⟨[
  .functionDef false "f" (.mk [] [.mk "a" none] none [] [] none []) [
    .expr (.call (.name "print" .load) [.constant (.str "'lit'" [108, 105, 116]), .constant (.str "'lit'" [108, 105, 116]), .name "a" .load] []),
    .return_ (some (.constant .none))] [] none [],
  .expr (.call (.name "print" .load) [.constant (.str "'lit'" [108, 105, 116])] []),
  .assign [.name "r" .store] (.call (.name "f" .load) [.constant .none] [])]⟩

def goodHoist : HoistW :=
  { proMod := [.ghost (.str "'lit'" [108, 105, 116]) "_A"], proFn := fun _ => [.ghost .none "A"] }
def badHoist : HoistW :=
  { proMod := [.ghost (.str "'lit'" [108, 105, 116]) "r"], proFn := fun _ => [] }

example : hoistOK goodHoist hoistWitnessModule = true := by decide +kernel
example : hoistOK badHoist hoistWitnessModule = false := by decide +kernel

end PMV.C01
