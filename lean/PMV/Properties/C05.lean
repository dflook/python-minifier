import PMV.Generated.Pipeline
import PMV.Model.Pipeline
import PMV.Model.Minify
import PMV.Proofs.TransformsImports
import PMV.Proofs.DropGuard
/-
  C05 — Each option performs only its documented rewrite, only where it is valid.
  `Spec.Rewrites.canonModule c` erases exactly what the documentation lets the options in `c` do.  Proved (T05.1) for
  remove_pass / remove_asserts / remove_literal_statements / remove_debug / combine_imports / remove_object_base /
  remove_explicit_return_none: output = input modulo that erasure, for every module at every nesting depth.  Besides:
  what the filters keep (T05.3, T05.6), all switches off is the identity, the stages run under exactly the generated
  conditions.
  For the remaining options (annotations, positional-only markers, exception brackets) the specification shares its
  helper functions with the model and a theorem would restate them: there the canon is an oracle on the real output only.
  The behavioural side (the `-O` clause included) is under C01.
-/
namespace PMV.C05
open PMV PMV.Transforms PMV.Spec.Rewrites

/-- G05.0: each transform runs under its own switch only, in the modelled order. -/
theorem pipeline_as_modelled : Generated.pipeline = Pipeline.modelled := rfl

/-- T05.2: with every switch off no tree transform is applied. -/
theorem all_off_is_identity (t : Printer.PrecTable) (sp : Token.Spacing) (orc : Fold.Oracle) (el : List String) (m : Module) :
    Minify.transformM t sp orc el Minify.Opts.allOff m = m :=
  rfl

/-- T05.3a: a block that is not the module body never becomes empty (a `0` is left otherwise). -/
theorem block_stays_nonempty (q : Stmt → Bool) (b : List Stmt) : filterSuite q false b ≠ [] := by
  unfold filterSuite
  cases b.filter (fun s => !q s) <;> exact List.cons_ne_nil _ _

/-- T05.3b: a statement that is not of the dropped kind is kept. -/
theorem other_statements_kept (q : Stmt → Bool) (m : Bool) (b : List Stmt) (s : Stmt) (hs : s ∈ b) (hq : q s = false) :
    s ∈ filterSuite q m b := by
  have hmem : s ∈ b.filter (fun s => !q s) := List.mem_filter.mpr ⟨hs, by simp [hq]⟩
  rcases filterSuite_cases q m b with h | ⟨h, _, _⟩
  · rw [h]; exact hmem
  · rw [h] at hmem; cases hmem

/-- T05.1 (remove_pass): output = input modulo dropping `pass` statements and `0` placeholders (a placeholder is left in a
    block that would become empty and in front of a string statement that would become a docstring, F39). -/
theorem remove_pass_only_documented (m : Module) :
    canonModule { pass := true } (travModule removePass m) = canonModule { pass := true } m :=
  removePass_eq ▸ (absorbs_guardT { pass := true } isPass (fun cls s hs => kept_cStmt_dropped cls (by simp [dropStmt, hs]))
    rfl).canon rfl rfl m

/-- T05.1 (remove_asserts): output = input modulo dropping `assert` statements and `0` placeholders (left where remove_pass
    leaves them, F41; the same for remove_debug). -/
theorem remove_asserts_only_documented (m : Module) :
    canonModule { asserts := true } (travModule removeAsserts m) = canonModule { asserts := true } m :=
  (absorbs_guardT { asserts := true } isAssert (fun cls s hs => kept_cStmt_dropped cls (by simp [dropStmt, hs]))
    rfl).canon rfl rfl m

/-- T05.6 (F39, F41): none of the statement-removing options gives a module, class or function a docstring: whatever is
    nested in it, a block that does not start with a string statement does not start with one after remove_pass,
    remove_asserts or remove_debug (`m`: the block is the module body). -/
theorem docstring_never_gained (m : Bool) (b : List Stmt) (h : startsWithString b = false) :
    startsWithString (removePass.suiteF m (travBody removePass b)) = false
    ∧ startsWithString (removeAsserts.suiteF m (travBody removeAsserts b)) = false
    ∧ startsWithString (removeDebug.suiteF m (travBody removeDebug b)) = false := by
  have hg (q : Stmt → Bool) (hz : q zeroStmt = false) : startsWithString ((guardT q).suiteF m (travBody (guardT q) b)) = false :=
    guarded_no_new_docstring q hz m _ (by rw [startsWithString_trav (guardT q) (fun _ => rfl)]; exact h)
  exact ⟨removePass_eq ▸ hg isPass rfl, hg isAssert rfl, hg canRemoveDebug rfl⟩

-- Non-vacuity of T05.6: `assert x; 'text'; x` keeps `'text'` second (a `0` in front); `x; assert x; 'text'` just loses the
-- assert; without the guard (the plain filter) the first block would start with the string.
example :
    let txt : Stmt := .expr (.constant (.str "'text'" [116]))
    let x : Expr := .name "x" .load
    startsWithString [.assert_ x none, txt, .expr x] = false
    ∧ (removeAsserts.suiteF false [.assert_ x none, txt, .expr x]).map isStrStmt = [false, true, false]
    ∧ (removeAsserts.suiteF false [.expr x, .assert_ x none, txt]).map isStrStmt = [false, true]
    ∧ startsWithString (filterSuite isAssert false [.assert_ x none, txt, .expr x]) = true
    ∧ (removeDebug.suiteF true [.if_ (.name "__debug__" .load) [.expr x] [], txt]).map isStrStmt = [false, true]
    ∧ (removePass.suiteF false [.pass, .pass, txt]).map isStrStmt = [false, true] := by
  decide +kernel

/-- T05.1 (remove_literal_statements), with the `__doc__` guard: output = input modulo dropping literal statements and `0`
    placeholders, the module docstring not among them when the module mentions `__doc__` (the transform then removes
    nothing at all; the statement only asks for the docstring). -/
theorem remove_literals_only_documented (m : Module) :
    canonModule { literals := true, keepModuleDoc := docInModule m } (removeLiteralStatements m)
      = canonModule { literals := true, keepModuleDoc := docInModule m } m := by
  unfold removeLiteralStatements
  cases docInModule m
  · exact (absorbs_dropT { literals := true, keepModuleDoc := false } isLiteralStmt
      (fun cls s hs => kept_cStmt_dropped cls (by simp [dropStmt, hs])) rfl).canon rfl rfl m
  · rfl

/-- T05.1 (remove_debug): output = input modulo replacing an `if __debug__:` statement by what `-O` would run. -/
theorem remove_debug_only_documented (m : Module) :
    canonModule { debug := true } (travModule removeDebug m) = canonModule { debug := true } m :=
  absorbs_removeDebug.canon rfl rfl m

/-- T05.1 (remove_object_base): output = input modulo dropping `object` from base lists. -/
theorem remove_object_only_documented (m : Module) :
    canonModule { object := true } (travModule removeObject m) = canonModule { object := true } m :=
  absorbs_removeObject.canon rfl rfl m

/-- T05.1 (remove_explicit_return_none): output = input modulo `return None` ≡ `return` and the bare `return`s that end a function. -/
theorem remove_return_none_only_documented (m : Module) :
    canonModule { returnNone := true } (travModule removeReturnNone m) = canonModule { returnNone := true } m :=
  absorbs_removeReturnNone.canon rfl rfl m

/-- T05.1 (combine_imports): output = input modulo splitting import statements into single-name imports — so no alias is
    lost, added, renamed or moved across another statement. -/
theorem combine_imports_only_documented (m : Module) :
    canonModule { imports := true } (travModule combineImports m) = canonModule { imports := true } m :=
  absorbs_combineImports.canon rfl rfl m

/-- T05.3c: `CombineImports` keeps the sequence of imported names (no reordering, nothing lost or added). -/
theorem combine_imports_keeps_order (b : List Stmt) :
    flattenImports (combineImport b) = flattenImports b ∧ flatFrom (combineFrom b) = flatFrom b :=
  ⟨flatten_combineImport b, flatFrom_combineFrom b⟩

-- F39: a string statement behind leading `pass` statements does not become the docstring
example : (removePass.suiteF false [.pass, .pass, .expr (.constant (.str "'t'" [116])), .return_ none]).map isZero = [true, false, false] := by decide +kernel
example : (removePass.suiteF false [.expr (.constant (.str "'t'" [116])), .pass]).map isZero = [false] := by decide +kernel

-- a debug block with an `else` leaves its `else`; an emptied block keeps one `0`, an emptied module nothing; `from a` is not
-- merged across `from b`
example : (canonModule { debug := true } ⟨[.if_ (.name "__debug__" .load) [.pass] [.expr (.name "x" .load)], .expr (.name "y" .load)]⟩).body.length = 2 := by decide +kernel
example : (filterSuite isPass false [.pass, .pass]).length = 1 ∧ (filterSuite isPass false [.pass, .pass]).all Spec.Rewrites.isZero = true := by decide +kernel
example : (filterSuite isPass true [.pass]).length = 0 := by decide +kernel
example : (combineFrom [.importFrom (some "a") [⟨"x", none⟩] 0, .importFrom (some "b") [⟨"y", none⟩] 0,
    .importFrom (some "a") [⟨"z", none⟩] 0]).length = 3 := by decide +kernel

end PMV.C05
