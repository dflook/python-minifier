import PMV.Generated.Strings
import PMV.Generated.Prec
import PMV.Proofs.MiniString
import PMV.Proofs.FoldTokens
/-
  C12 — Minifying never runs code taken from the input.
  Every `eval` in the code base is in the inventory below (regenerated from the source on every run).  Theorems cover
  two of the sites:
    * MiniString: quote + escaped body + quote is delimited as exactly one string literal for *every* string;
    * FoldConstants: the text of a `ClosedLit` expression consists of numbers, True/False/None, operators, parentheses.
  No theorem covers `MiniBytes.__str__`, `f_string.Str` / `Bytes` (literal splitting: correspondence and the audit-hook
  oracle only), the constant `literal_eval('...')` of `ast_compat` and the `open` calls of the command line.
-/
namespace PMV.C12
open PMV PMV.MiniString PMV.Spec.StrLex

/-- G12.0: the call sites of eval/exec/compile/__import__/open/literal_eval in the package are exactly
    the modelled ones (a new or moved site breaks this obligation). -/
theorem eval_sites_inventory :
    Generated.evalSites =
      [("__main__.py", "main", "open"), ("__main__.py", "main", "open"), ("__main__.py", "main", "open"),
       ("__main__.py", "main", "open"), ("__main__.py", "main", "open"), ("__main__.py", "main", "open"),
       ("ast_compat.py", "Ellipsis.__new__", "literal_eval"),
       ("f_string.py", "Bytes.__str__", "eval"), ("f_string.py", "Str.__str__", "eval"),
       ("ministring.py", "MiniBytes.__str__", "eval"), ("ministring.py", "MiniString.__str__", "eval"),
       ("ministring.py", "MiniString.__str__", "eval"),
       ("transforms/constant_folding.py", "safe_eval", "eval")] := rfl

/-- G12.1: the generated escape tables satisfy the obligation (backslash, LF and CR escaped; the
    quote escaped; every replacement is a backslash pair followed by inert characters). -/
theorem esc_ok : EscOK Generated.escTable = true := by decide +kernel

/-- T12.1: for every string, either quote character, safe mode on or off: what MiniString hands to `eval` is delimited as
    one short string literal (the scanner ends at the closing quote and nowhere earlier; what the literal evaluates to
    is not modelled) … -/
theorem ministring_short_closed (q : Nat) (hq : q = 39 ∨ q = 34) (safe : Bool) (s : List Nat) :
    scanShort q (toShort Generated.escTable q safe s ++ [q]) = some [] :=
  toShort_closed Generated.escTable esc_ok q hq safe [] s

/-- … or exactly one long (triple-quoted) string literal. -/
theorem ministring_long_closed (q : Nat) (hq : q = 39 ∨ q = 34) (safe : Bool) (s : List Nat) :
    scanLong q (toLong Generated.escTable q safe s ++ [q, q, q]) = some [] :=
  toLong_closed Generated.escTable esc_ok q hq safe [] s

/-- T12.3: a closed literal expression (`ClosedLit`, decidable: numbers whose printed spelling is numeric — no
    `inf` / `nan` as a name — True/False/None, binary operators, unary minus) prints to closed tokens only: numeric texts,
    True/False/None, operators, parentheses.  `visit_BinOp` hands `safe_eval` only a BinOp of two literal operands
    (`Fold.operandVal`, the first guard of `Fold.foldBinOp`); that the texts of their numbers are numeric is assumed of
    the input (they are `repr`s of numbers), not proved. -/
theorem fold_closed_tokens (e : Expr) (h : Fold.ClosedLit e = true) :
    (Printer.exprToks Generated.precTable e).all Fold.closedTok = true :=
  Fold.flat_closed _ (Fold.paren_closed _ e h)

-- Non-vacuity: an adversarial string (quote, backslash, newline, NUL, closing-triple attempt)
example : evalText Generated.escTable 39 1 [39, 92, 10, 0, 39, 39, 39] =
    [39, 92, 39, 92, 92, 92, 110, 92, 120, 48, 48, 92, 39, 92, 39, 92, 39, 39] := by decide +kernel
example : isOneLiteral 39 3 (evalText Generated.escTable 39 3 [39, 39, 39, 92, 10, 34]) = true := by decide +kernel

-- the float `inf` is printed as `1e999` and is closed; a complex `repr` that spells `inf` is not
example : Fold.ClosedLit (.binOp (.constant (.float "inf")) .add (.binOp (.constant (.int 255)) .mult (.constant (.complex "1e+16j")))) = true := by
  decide +kernel
example : Fold.ClosedLit (.constant (.complex "(inf+1j)")) = false := by decide +kernel

end PMV.C12
