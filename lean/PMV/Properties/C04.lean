import PMV.Generated.Names
import PMV.Proofs.Rename
import PMV.Proofs.InPlace
/-
  C04 — Externally visible names are never changed.
  On the NameAssigner model: pinned bindings (class-level names, dunder names, never-bound names, everything at module
  level unless rename_globals) keep their names; names added at module level carry `_` when rename_globals is off.
  `arg_rename_in_place` — which parameters are renamed in the signature rather than re-bound in the body — is stated
  outright (T04.5–7) on a model compared with the real function on every parameter of generated signatures.
  Which bindings the binder pins, and which AST fields `Binding.rename` writes, are decided by the oracle on the real code.
-/
namespace PMV.C04
open PMV.Rename

/-- T04.2: a pinned binding is never renamed (for every input of the assigner). -/
theorem pinned_never_renamed (pg : Bool) (moduleNs : Ns) (rg : List String) (bindings : List Binding) (r : Result)
    (h : r ∈ assign Generated.nameSeq pg moduleNs rg bindings) (hp : r.b.allow = false) :
    r.final = r.b.name ∧ r.renamed = false :=
  pinned_kept h hp

/-- T04.4: with `prefix_globals` (i.e. rename_globals off) every new name given to a module-level binding
    (hoisted literal alias, builtin alias) starts with an underscore followed by a table name. -/
theorem module_names_prefixed (moduleNs : Ns) (rg : List String) (bindings : List Binding) (r : Result)
    (h : r ∈ assign Generated.nameSeq true moduleNs rg bindings) (hr : r.renamed = true) (hm : r.b.isModule = true) :
    ∃ m ∈ Generated.nameSeq, r.final = some ("_" ++ m) := by
  obtain ⟨m, hm', hf⟩ := renamed_from_table h hr
  refine ⟨m, hm', ?_⟩
  rw [hf]; simp [pfxOf, hm]

/-- without the prefix (rename_globals on, or a non-module binding) the new name is a table name itself -/
theorem other_names_unprefixed (pg : Bool) (moduleNs : Ns) (rg : List String) (bindings : List Binding) (r : Result)
    (h : r ∈ assign Generated.nameSeq pg moduleNs rg bindings) (hr : r.renamed = true) (hm : (r.b.isModule && pg) = false) :
    ∃ m ∈ Generated.nameSeq, r.final = some m := by
  obtain ⟨m, hm', hf⟩ := renamed_from_table h hr
  refine ⟨m, hm', ?_⟩
  rw [hf]; simp [pfxOf, hm]

/-- T04.5: a parameter is renamed in the signature exactly when it is positional-only, `*args`, `**kwargs`, or the first
    parameter (`self` / `cls`) of an undecorated / `@classmethod` function in a class body. -/
theorem in_place_exactly (f : InPlace.Fn) (s : InPlace.Slot) :
    InPlace.argRenameInPlace f s = true ↔
      ((∃ i, s = .posonly i) ∨ s = .vararg ∨ s = .kwarg ∨
        (InPlace.selfLike f = true ∧ f.nPosonly = 0 ∧ 0 < f.nArgs ∧ s = .arg 0)) := by
  cases s <;> simp [InPlace.argRenameInPlace, InPlace.firstSlot_eq_some]

/-- T04.6: a parameter that a caller may pass by keyword keeps its spelling in the signature, unless it is the
    `self` / `cls` of a method (the documented exception). -/
theorem keyword_passable_in_place (f : InPlace.Fn) (s : InPlace.Slot) (hk : s.keywordPassable = true)
    (h : InPlace.argRenameInPlace f s = true) : InPlace.selfLike f = true ∧ s = .arg 0 ∧ f.nPosonly = 0 := by
  rcases (in_place_exactly f s).mp h with ⟨i, rfl⟩ | rfl | rfl | ⟨a, b, _, c⟩
  · cases hk
  · cases hk
  · cases hk
  · exact ⟨a, c, b⟩

/-- T04.7: keyword-only parameters, positional parameters after the first, and every positional-or-keyword parameter
    of a lambda or of a function outside a class body are never renamed in the signature. -/
theorem never_in_place (f : InPlace.Fn) (i : Nat) :
    InPlace.argRenameInPlace f (.kwonly i) = false ∧ InPlace.argRenameInPlace f (.arg (i + 1)) = false ∧
    ((f.inClass = false ∨ f.isLambda = true) → InPlace.argRenameInPlace f (.arg i) = false) := by
  -- each is keyword-passable, and a keyword-passable parameter renamed in place is `.arg 0` of a `self`-like function
  refine ⟨Bool.eq_false_iff.mpr fun h => ?_, Bool.eq_false_iff.mpr fun h => ?_, fun hf => Bool.eq_false_iff.mpr fun h => ?_⟩
  · cases (keyword_passable_in_place f _ rfl h).2.1
  · cases (keyword_passable_in_place f _ rfl h).2.1
  · have hs := (keyword_passable_in_place f _ rfl h).1
    unfold InPlace.selfLike at hs
    rcases hf with hf | hf <;> simp [hf] at hs

example : InPlace.argRenameInPlace ⟨false, true, [.name "classmethod" .load], 0, 2⟩ (.arg 0) = true ∧
    InPlace.argRenameInPlace ⟨false, true, [.name "staticmethod" .load], 0, 2⟩ (.arg 0) = false ∧
    InPlace.argRenameInPlace ⟨true, true, [], 0, 2⟩ (.arg 0) = false := by decide +kernel

example : pfxOf ⟨0, .builtin, some "print", 0, true, none, 0, true, [], []⟩ true = "_" := by decide +kernel

end PMV.C04
