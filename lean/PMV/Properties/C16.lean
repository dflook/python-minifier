import PMV.Generated.Shebang
import PMV.Proofs.Shebang
import PMV.Proofs.Encoding
/-
  C16 — Shebang, source encoding and line endings are handled faithfully.
  On the model of `_find_shebang` and of the re-attachment in `minify()`: the shebang is the first physical line (LF, CRLF
  or lone CR terminated) of a source that starts with `#!`, and is the first line of the output when preservation is on;
  otherwise the output is the printed module alone.  On the model of the name normalisation in `_source_encoding` (the tokenizer's `get_normal_name`):
  which encoding a declared name stands for when a bytes shebang is decoded (T16.4).  The regular expressions, the
  `preserve_shebang is True` test and the name tables are regenerated from the source and must equal the modelled ones;
  model, implementation and CPython's `tokenize._get_normal_name` are compared on a systematic family of names.
  Not proved: finding the declaration (the cookie pattern) is covered by the oracle only; the codecs and the decoding of
  the module's own bytes (PEP 263 cookies, BOM) are CPython's; tree equality is decided on the real code.
-/
namespace PMV.C16
open PMV.Shebang PMV.Spec.Lines

/-- G16.0: both patterns (bytes and text) are the modelled one, and only `True` switches preservation on. -/
theorem patterns_as_modelled :
    Generated.shebangPatterns = ["^#![^\\r\\n]*", "^#![^\\r\\n]*"] ∧ Generated.shebangTest = "preserve_shebang is True" :=
  ⟨rfl, rfl⟩

/-- T16.1: the shebang found is the first physical line. -/
theorem shebang_is_first_line (src rest : List Nat) (h : src = 35 :: 33 :: rest) : findShebang src = some (firstLine src) :=
  h ▸ findShebang_eq_firstLine rest

/-- T16.1b: nothing else is ever taken for a shebang. -/
theorem no_shebang_otherwise (src : List Nat) (h : ¬ ∃ rest, src = 35 :: 33 :: rest) : findShebang src = none := by
  unfold findShebang
  split
  · exact absurd ⟨_, rfl⟩ h
  · rfl

/-- T16.3a: with preservation on, the first physical line of the output is the source's shebang line. -/
theorem output_first_line (src rest minified : List Nat) (h : src = 35 :: 33 :: rest) :
    firstLine (attach true src minified) = firstLine src := by
  subst h
  rw [attach, if_pos rfl, findShebang_eq_firstLine]
  exact firstLine_append_lf _ _ (firstLine_no_lineEnd _)

/-- T16.3b: with preservation off, or without a shebang, the output is the printed module alone. -/
theorem shebang_off_absent (src minified : List Nat) : attach false src minified = minified :=
  rfl

theorem no_shebang_absent (preserve : Bool) (src minified : List Nat) (h : ¬ ∃ rest, src = 35 :: 33 :: rest) :
    attach preserve src minified = minified := by
  cases preserve
  · rfl
  · rw [attach, if_pos rfl, no_shebang_otherwise src h]

open PMV.Encoding

/-- G16.4: the names, prefixes, slice length and replacements in `_source_encoding` are the modelled ones. -/
theorem encoding_names_as_modelled :
    Generated.encSlices = [2, 12] ∧ Generated.encLowered = 1 ∧ Generated.encReplaces = [[[95], [45]]]
    ∧ Generated.encEquals = [[utf8], [latin1, iso88591, isoLatin1]]
    ∧ Generated.encPrefixes = [[utf8 ++ [45]], [latin1 ++ [45], iso88591 ++ [45], isoLatin1 ++ [45]]]
    ∧ Generated.encAssigned = [utf8, iso88591] :=
  ⟨rfl, rfl, rfl, rfl, rfl, rfl⟩

/-- T16.4a: a name stands for UTF-8, for Latin-1, or for itself; and which of the three depends only on its first twelve
    characters, whatever their case. -/
theorem encoding_class_by_first_twelve (name : List Nat) :
    cls (normalName (name.take 12)) = cls (normalName name) ∧ cls (normalName (name.map lowerC)) = cls (normalName name) :=
  ⟨cls_eq _ _ (norm_take name), cls_eq _ _ (norm_lower name)⟩

/-- T16.4b: the suffix an editor adds after a separator (`utf-8-unix`, `latin-1-dos`, `iso-8859-1-mac`, …) does not change what
    the name stands for. -/
theorem encoding_suffix_ignored (s : List Nat) :
    normalName (utf8 ++ 45 :: s) = .utf8 ∧ normalName (latin1 ++ 45 :: s) = .latin1
    ∧ normalName (iso88591 ++ 45 :: s) = .latin1 ∧ normalName (isoLatin1 ++ 45 :: s) = .latin1 :=
  -- by evaluation: the name and the separator are fewer than twelve characters and decide every test, `s` is never inspected
  -- (`by rfl`: as a term each evaluation is run twice)
  ⟨by rfl, by rfl, by rfl, by rfl⟩

/-- T16.4c: `iso-8859-1` continued by anything but a separator is a different encoding (iso-8859-10 … iso-8859-16) and is
    not taken for Latin-1: the shebang is decoded with the codec of that name. -/
theorem encoding_other_parts_kept (d : Nat) (rest : List Nat) (h1 : d ≠ 45) (h2 : d ≠ 95) :
    normalName (iso88591 ++ d :: rest) = .other (iso88591 ++ d :: rest) := by
  have hd := dashC_lowerC_ne d h1 h2
  unfold normalName
  rw [norm_iso_cons]
  generalize dashC (lowerC d) = d' at hd
  generalize List.map dashC (List.map lowerC (List.take 1 rest)) = tl
  -- the normalised name is `iso-8859-1` followed by `d' ≠ '-'`: longer than `iso-8859-1` and without its dash prefix;
  -- `utf-8`, `latin-1` and `iso-latin-1` differ from it within the first five characters
  simp [isOrDash, iso88591, utf8, latin1, isoLatin1]
  omega

-- Non-vacuity of T16.4: "UTF_8-unix", "Latin_1", "iso-8859-15", "ISO_8859_1_dos"
open PMV.Encoding in
example : normalName [85, 84, 70, 95, 56, 45, 117, 110, 105, 120] = .utf8 ∧ normalName [76, 97, 116, 105, 110, 95, 49] = .latin1
    ∧ normalName (iso88591 ++ [53]) = .other (iso88591 ++ [53])
    ∧ normalName [73, 83, 79, 95, 56, 56, 53, 57, 95, 49, 95, 100, 111, 115] = .latin1 := by decide +kernel

-- Non-vacuity: CR-terminated source
example : findShebang [35, 33, 47, 98, 13, 112, 13] = some [35, 33, 47, 98] := by decide +kernel
example : firstLine (attach true [35, 33, 47, 98, 13, 112] [112]) = [35, 33, 47, 98] := by decide +kernel

end PMV.C16
