import PMV.Generated.Prec
import PMV.Generated.Spacing
import PMV.Proofs.Rename
import PMV.Proofs.Fold
import PMV.Proofs.Transforms
import PMV.Proofs.DropGuard
/-
  C17 — Turning a size optimisation on never makes the output longer (on the pinned corpus).
  The property quantifies over a finite, pinned corpus: the check enumerates it completely (thorough
  tier) on the real code.  What is proved about the models is the *decision logic* that is meant to
  guarantee it: a binding or literal is renamed / hoisted only when the cost model says the mentions
  do not get longer (or, for names, when its own name has been taken), the cost model being an inequality
  on total mention length (`shouldRename_iff`); folding never lengthens; the statement-dropping transforms
  never add statements.  The link between the cost model and printed length (layout slack,
  DESIGN §7-F13) is evaluated, not proved.
-/
namespace PMV.C17
open PMV PMV.Rename

/-- T17.1: a rename happens only if the cost model accepts it or the original name is no longer free. -/
theorem renamed_only_if_profitable_or_forced (names : List String) (pg : Bool) (a : Assigned) (b : Binding)
    (h : (decide1 names pg a b).renamed = true) :
    ∃ cand, (decide1 names pg a b).final = some cand ∧ (shouldRename b cand = true ∨ mustRename a b = true) := by
  rcases decide1_spec names pg a b with ⟨cand, e, _, _, hc⟩ | ⟨_, e, _⟩ <;> rw [e] at h ⊢
  · exact ⟨cand, rfl, hc⟩
  · cases h

/-- T17.2: a literal is hoisted only if the cost model accepts it (there is no "forced" case). -/
theorem hoisted_only_if_profitable (names : List String) (pg : Bool) (a : Assigned) (b : Binding) (hk : b.kind = .hoisted)
    (h : (decide1 names pg a b).renamed = true) :
    ∃ cand, (decide1 names pg a b).final = some cand ∧ shouldRename b cand = true := by
  obtain ⟨cand, hf, hor⟩ := renamed_only_if_profitable_or_forced names pg a b h
  exact ⟨cand, hf, hor.resolve_right (by simp [mustRename, hk])⟩

/-- the cost model, read as an inequality on total mention length -/
theorem shouldRename_iff (b : Binding) (n : String) :
    shouldRename b n = true ↔ oldMentions b * b.curLen + newMentions b * n.length + additionalBytes b ≤ b.refs.length * b.curLen := by
  simp [shouldRename]

/-- T17.3: folding never lengthens (T07.3 again: a folding step changes nothing or shortens). -/
theorem fold_not_longer (orc : Fold.Oracle) (l : Expr) (op : BinOpK) (r : Expr) :
    (Fold.exprText Generated.precTable Generated.spacing (Fold.foldBinOp Generated.precTable Generated.spacing orc l op r)).length
      ≤ (Fold.exprText Generated.precTable Generated.spacing (.binOp l op r)).length :=
  Fold.foldBinOp_le Generated.precTable Generated.spacing orc l op r

/-- T17.4: dropping statements never adds statements to a non-empty block. -/
theorem filter_not_more_statements (q : Stmt → Bool) (m : Bool) (b : List Stmt) (hb : b ≠ []) :
    (Transforms.filterSuite q m b).length ≤ b.length := by
  rcases Transforms.filterSuite_cases q m b with h | ⟨_, _, h⟩
  · rw [h]; exact List.length_filter_le _ _
  · rw [h]; exact List.length_pos_iff.mpr hb

/-- the guarded filter of remove_pass, remove_asserts and remove_debug adds no statement either: the guard puts one statement
    in the place of another -/
theorem guarded_not_more_statements (q : Stmt → Bool) (m : Bool) (b : List Stmt) (hb : b ≠ []) :
    ((Transforms.guardT q).suiteF m b).length ≤ b.length := by
  have hl : (Transforms.dropGuard q b).length = b.length := Transforms.dropGuard_invariant List.length q (fun _ _ _ => rfl) b
  rw [← hl]
  exact filter_not_more_statements q m _ fun e => hb (List.eq_nil_of_length_eq_zero (by rw [← hl, e]; rfl))

/-- T17.4b: the same for remove_pass with its docstring guard (the placeholder takes the place of a removed `pass`). -/
theorem remove_pass_not_more_statements (m : Bool) (b : List Stmt) (hb : b ≠ []) :
    (Transforms.removePass.suiteF m b).length ≤ b.length :=
  Transforms.removePass_eq ▸ guarded_not_more_statements Transforms.isPass m b hb

example : shouldRename ⟨0, .name, some "long_name", 0, true, none, 0, false, [], [⟨.name, []⟩, ⟨.name, []⟩]⟩ "A" = true := by decide +kernel
example : shouldRename ⟨0, .hoisted, none, 3, true, none, 0, false, [], [⟨.literal, []⟩, ⟨.literal, []⟩]⟩ "A" = false := by decide +kernel

end PMV.C17
