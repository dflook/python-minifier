import PMV.Generated.Cli
import PMV.Proofs.CliCheck
import PMV.Proofs.Cli
import PMV.Proofs.Preserve
/-
  C13 — The command line tool writes exactly what the API would return.
  Flag forwarding is proved for every table that satisfies `TableOK` and instantiated with the table generated from
  `__main__.py`; the preserve lists, the validation and the output paths on the models of `do_minify` and `main()`
  (compared with the command line run in process).
-/
namespace PMV.C13
open PMV.Cli

/-- G13: the table extracted from the *current* `__main__.py` (argparse actions, observed forwarding)
    satisfies the obligation; re-proved on every run. -/
theorem table_ok : TableOK Generated.Cli.table = true := by decide +kernel

/-- T13.1: for every argv, every keyword `do_minify` forwards has exactly the value the documentation
    assigns to the set of flags present — each flag controls its own option and no other. -/
theorem flags_forwarded (argv : List String) :
    ∀ k e, (k, e) ∈ Spec.Docs.docKw →
      evalKw Generated.Cli.table (parseBools Generated.Cli.table argv) k
        = some (e.eval (fun f => argv.contains f)) :=
  flags_forwarded_of_tableOK _ table_ok argv

/-- T13.1b: with no flags the CLI passes the documented API defaults, and these are the defaults in
    `minify`'s signature (generated from `inspect.signature`). -/
theorem defaults_agree :
    (Spec.Docs.docApiDefaults.all fun kd =>
        Generated.Cli.apiDefaults.lookup kd.1 == some kd.2
        && evalKw Generated.Cli.table (parseBools Generated.Cli.table []) kd.1 == some kd.2) = true
    ∧ Generated.Cli.apiDefaults.length = Spec.Docs.docApiDefaults.length := by decide +kernel

/-- T13.1c: order and repetition of flags are irrelevant. -/
theorem flags_order_irrelevant (a b : List String) (h : ∀ f, f ∈ a ↔ f ∈ b) :
    ∀ k e, (k, e) ∈ Spec.Docs.docKw →
      evalKw Generated.Cli.table (parseBools Generated.Cli.table a) k
        = evalKw Generated.Cli.table (parseBools Generated.Cli.table b) k := by
  intro k e hke
  rw [flags_forwarded a k e hke, flags_forwarded b k e hke]
  congr 2
  funext f
  simp only [List.contains_eq_mem, h f]

open PMV.Preserve in
/-- T13.3: a comma-joined list of clean names is split back into exactly those names. -/
theorem preserve_split (ws : Nat → Bool) (names : List (List Nat)) (h : ∀ n ∈ names, Preserve.Clean ws n) :
    Preserve.parseArg ws (Preserve.joinComma names) = names := by
  by_cases hnil : names = []
  · subst hnil; simp [parseArg, joinComma, splitComma]
  · rw [parseArg, split_join names hnil (fun n hn => (h n hn).2.1),
      List.filter_eq_self.mpr fun n hn => by simpa using (h n hn).1]
    exact (List.map_congr_left (g := id) fun n hn => strip_id ws n (h n hn).2.2.1 (h n hn).2.2.2).trans (List.map_id _)

/-- T13.3: repeated `--preserve-*` flags concatenate. -/
theorem preserve_repeat (ws : Nat → Bool) (a b : List (List Nat)) :
    Preserve.parseArgs ws (a ++ b) = Preserve.parseArgs ws a ++ Preserve.parseArgs ws b := by
  simp [Preserve.parseArgs]

/-- T13.4: an invalid combination exits non-zero with nothing written anywhere. -/
theorem invalid_rejected (force : Bool) (a : Args) (isDir : String → Bool) (api : List UInt8 → Outcome)
    (fs : FS) (stdin : List UInt8) (vl : List String) (h : invalid a isDir = true) :
    let r := cliMain force a isDir api fs stdin vl
    r.exit ≠ 0 ∧ r.fs = fs ∧ r.stdout = [] := by
  simp [cliMain, h]

/-- T13.5: for a single valid module read from stdin, what is written (to stdout: no `--output`) is the API result, or
    the untouched source when the size rule says so. -/
theorem stdin_bytes_are_api (force : Bool) (a : Args) (isDir : String → Bool) (api : List UInt8 → Outcome)
    (fs : FS) (stdin m : List UInt8) (vl : List String)
    (hv : invalid a isDir = false) (hp : a.paths = ["-"]) (hapi : api stdin = .ok m) (ho : a.output = none) :
    (cliMain force a isDir api fs stdin vl).stdout = written force stdin m
    ∧ (written force stdin m = m ∨ written force stdin m = stdin) := by
  simp [cliMain, hv, hp, hapi, ho, written_is_api_or_src]

-- Non-vacuity of T13.1: a repeated flag among other arguments; a flag that switches a sub-option of another keyword off.
example : evalKw Generated.Cli.table (parseBools Generated.Cli.table
    ["--remove-asserts", "x.py", "--no-remove-annotations", "--remove-asserts"]) "remove_asserts" = some true :=
  flags_forwarded _ _ (.present "--remove-asserts") (List.mem_of_getElem? (i := 9) (by rfl))
example : evalKw Generated.Cli.table (parseBools Generated.Cli.table
    ["--no-remove-annotations"]) "remove_annotations.remove_return_annotations" = some false :=
  flags_forwarded _ _ (.and (BExp.present "--no-remove-annotations").not (BExp.present "--no-remove-return-annotations").not)
    (List.mem_of_getElem? (i := 15) (by rfl))
example : Preserve.Clean (fun c => c == 32) [97, 98] := by
  refine ⟨by simp, by simp, ?_, ?_⟩ <;> intro c h <;> simp at h <;> subst h <;> decide

end PMV.C13
