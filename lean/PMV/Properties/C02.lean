import PMV.Generated.Prec
import PMV.Generated.Spacing
import PMV.Generated.Stmt
import PMV.Proofs.ParenGram
import PMV.Proofs.Spacing
import PMV.Proofs.Numbers
import PMV.Proofs.LayoutRefine
import PMV.Proofs.LayoutSim
import PMV.Proofs.LayoutPlain
import PMV.Proofs.LayoutGrammar
/-
  C02 — Printed source re-parses to exactly the same syntax tree.
  There is no model of CPython's parser here: `C02_full` states the property relative to one, and the theorems prove what
  a grammar-level specification can express, on the printer model with the tables *generated from the current source*:
  for every well-formed expression the parentheses are sufficient for the grammar (`Gram`) and nothing else is added,
  tokens the tokenizer would glue are separated, integers denote their value; for every module whose headers and simple statements print as
  non-empty runs of real tokens (`okL`) the layout of statements (lines, depths, separators) is the specified one (T02.4–T02.5).  Ties: printer model = ModulePrinter on generated ASTs
  and the standard library, the grammar and layout specifications against `ast.parse` / `tokenize`, the strict AST round
  trip on the real code.
-/
namespace PMV.C02
open PMV PMV.Printer PMV.Spec.Grammar

/-- G02.2: the generated precedence table, with the literals the printer compares precedences against, satisfies the
    obligation: wherever the printer does not parenthesise, the child's grammar level is high enough for the slot. -/
theorem table_ok : TableOK Generated.precTable = true := by decide +kernel

/-- T02.1a: parenthesisation is grammatical for every well-formed expression. -/
theorem paren_grammatical (e : Expr) (hwf : WF e = true) : Gram (paren Generated.precTable e) = true :=
  gp Generated.precTable table_ok e hwf

/-- T02.1b: and it only adds parentheses. -/
theorem paren_erases (e : Expr) (hwf : WF e = true) : erase (paren Generated.precTable e) = e :=
  ep Generated.precTable e hwf

/-- G02.3: the generated spacing lists separate every token pair the tokenizer would glue. -/
theorem spacing_ok : Spec.Lex.SpacingOK Generated.spacing = true := by decide +kernel

/-- T02.3: whenever the next (non-layout) token would be glued to the previous one, a space is emitted. -/
theorem tokens_separated (st : Token.St) (tok : Token.Tok) (hl : Spec.Lex.isLayout tok = false)
    (hg : Spec.Lex.glues st.prev (Spec.Lex.nextOf tok) = true) :
    (Token.step Generated.spacing st tok).code = (Spec.Lex.text tok).toList.reverse ++ ' ' :: st.code :=
  Spec.Lex.step_separates Generated.spacing spacing_ok st tok hl hg

/-- T02.6 (integers): the printed spelling of a non-negative integer denotes it. -/
theorem int_literal (n : Nat) : Spec.Numbers.litValue (Token.natChars n) = some n :=
  Token.litValue_natChars n

/-- G02.4: every statement class of the AST has an entry in the printer's dispatch table (the part C08 claims too), and
    the generated compound list holds the classes that own suites, with `match_case`, and none of the simple statements. -/
theorem dispatch_complete :
    (["FunctionDef", "AsyncFunctionDef", "ClassDef", "Return", "Delete", "Assign", "TypeAlias", "AugAssign",
      "AnnAssign", "For", "AsyncFor", "While", "If", "With", "AsyncWith", "Match", "Raise", "Try", "TryStar",
      "Assert", "Import", "ImportFrom", "Global", "Nonlocal", "Expr", "Pass", "Break", "Continue", "match_case"].all
        fun c => Generated.stmtTable.dispatch.contains c) = true
    ∧ (["FunctionDef", "AsyncFunctionDef", "ClassDef", "For", "AsyncFor", "While", "If", "With", "AsyncWith",
        "Match", "Try", "TryStar", "match_case"].all fun c => Generated.stmtTable.compound.contains c) = true
    ∧ (["Return", "Delete", "Assign", "TypeAlias", "AugAssign", "AnnAssign", "Raise", "Assert", "Import",
        "ImportFrom", "Global", "Nonlocal", "Expr", "Pass", "Break", "Continue"].all
        fun c => !Generated.stmtTable.compound.contains c) = true := by decide +kernel

/-- G02.5: the compound-statement list regenerated from `_suite` agrees with the grammar's compound statements, and
    `match_case` is in it (a `match` body is always a block). -/
theorem stmt_table_ok : Spec.Layout.TableOK Generated.stmtTable := by
  -- the table was evaluated once, in `dispatch_complete`; here only the class name of each statement is looked up
  obtain ⟨_, h1, h2⟩ := dispatch_complete
  simp only [List.all_cons, List.all_nil, Bool.and_true, Bool.and_eq_true, Bool.not_eq_true'] at h1 h2
  refine ⟨fun s => ?_, by simp only [h1]⟩
  cases s with
  | functionDef a _ _ _ _ _ _ | for_ a _ _ _ _ | with_ a _ _ | try_ a _ _ _ _ =>
    cases a <;> simp only [isCompound, stmtClass, Spec.Layout.isCompoundSyn, h1]
  | classDef | while_ | if_ | match_ => simp only [isCompound, stmtClass, Spec.Layout.isCompoundSyn, h1]
  | _ => simp only [isCompound, stmtClass, Spec.Layout.isCompoundSyn, h2]

/-- T02.4 (layout): for every module whose clause headers and simple statements print as non-empty runs of real tokens
    (`okL`, decidable), the printer's state machine — `newline`, `indent ±1`, `end_statement` with their `rstrip` and
    empty-code special cases, the `elif` token surgery, the missing `newline` before a `while … else` — leaves exactly the
    layout `emitModule` specifies: one line per clause header; a suite on the header line (simple statements joined by
    single `;`) or, when it holds a compound statement, as a block exactly one level deeper; consecutive statements
    separated by a line break when either is compound or the block is the module, by `;` otherwise. -/
theorem layout_as_specified (m : Module) (hok : Spec.Layout.okL Generated.precTable Generated.stmtTable m.body = true) :
    Spec.Layout.machineLayout (moduleToks Generated.precTable Generated.stmtTable m)
      = Spec.Layout.emitModule Generated.precTable Generated.stmtTable m :=
  Spec.Layout.module_layout _ _ stmt_table_ok m hok

/-- T02.4, syntactic side condition: expression tokens never contain a layout token, so `okL` holds as soon as no `yield`
    is visited as a statement (pattern value or class, type-alias name, simple annotated target — positions where the
    grammar admits none) and every expression statement, and an assignment without targets, prints at least one token
    (`plainL`). -/
theorem layout_as_specified_plain (m : Module) (h : Spec.Layout.plainL Generated.precTable m.body = true) :
    Spec.Layout.machineLayout (moduleToks Generated.precTable Generated.stmtTable m)
      = Spec.Layout.emitModule Generated.precTable Generated.stmtTable m :=
  layout_as_specified m (Spec.Layout.okL_of_plain _ _ m.body h)

/-- T02.4b: given `okL`, the specified layout of a non-empty module starts and ends with a real token and never has two
    layout tokens in a row: no empty line, no `;;`, no `;` before a line break, no trailing separator. -/
theorem layout_tidy (m : Module) (hok : Spec.Layout.okL Generated.precTable Generated.stmtTable m.body = true) (hne : m.body ≠ []) :
    Spec.Layout.Tidy (Spec.Layout.emitModule Generated.precTable Generated.stmtTable m) ∧
    Spec.Layout.noAdj (Spec.Layout.emitModule Generated.precTable Generated.stmtTable m) = true :=
  have h := Spec.Layout.module_tidy _ _ m hok hne
  ⟨h, Spec.Layout.tidy_noAdj h⟩

/-- T02.4c (indentation): in the specified layout a line is deeper than the one before it only by exactly one level and
    only right after a colon — where CPython's tokenizer emits INDENT and the grammar expects a block (shallower lines are
    always fine with tab-count depths).  For every module, no side condition. -/
theorem layout_indentation (m : Module) :
    (Spec.Layout.indRun (0, none) (Spec.Layout.emitModule Generated.precTable Generated.stmtTable m)).isSome = true :=
  Spec.Layout.module_indent _ _ m

/-- T02.4d (brackets): everything the expression printer emits is bracket-balanced, so in the specified layout of every
    module each line break and each `;` is at bracket depth 0 — where the tokenizer reads it as NEWLINE / statement
    separator rather than ignoring it — and all brackets are closed at the end.  No side condition. -/
theorem layout_brackets (m : Module) :
    Spec.Layout.depthL 0 (Spec.Layout.emitModule Generated.precTable Generated.stmtTable m) = some 0 :=
  Spec.Layout.module_brackets _ _ m

/-- T02.5 (characters): when moreover no token text ends in a character that `newline` strips or is empty (`textOK`),
    the printed text is the concatenation of the characters of a list of layout tokens (a token with the space the spacing
    rule puts before it; a line break followed by `depth` tabs; a `;`) which, spacing forgotten, is the specified layout. -/
theorem printed_text_is_layout (m : Module) (hok : Spec.Layout.okL Generated.precTable Generated.stmtTable m.body = true)
    (hts : ∀ tok ∈ moduleToks Generated.precTable Generated.stmtTable m, Spec.Layout.textOK tok = true) :
    ∃ L : List Spec.Layout.LTok,
      Token.render Generated.spacing (moduleToks Generated.precTable Generated.stmtTable m) = String.ofList (Spec.Layout.revCode L.reverse).reverse ∧
      L.map Spec.Layout.LTok.erase = Spec.Layout.emitModule Generated.precTable Generated.stmtTable m := by
  refine ⟨((Spec.Layout.lrun Generated.spacing (moduleToks Generated.precTable Generated.stmtTable m)).acc.dropWhile Spec.Layout.LTok.isLay).reverse, ?_, ?_⟩
  · rw [List.reverse_reverse]
    exact Spec.Layout.render_eq Generated.spacing _ hts
  · rw [List.map_reverse]
    exact Spec.Layout.printed_layout Generated.spacing _ _ stmt_table_ok m hok

/-- The full property, relative to a parser `parse` standing for `ast.parse`.  Not proved, tied by correspondence and the
    real-code oracle only: that each logical line is read back as the statement it was printed from, statement-level
    expression slots, string / float literals; the text of an f-string is supplied by the implementation. -/
def C02_full (parse : String → Option Module) : Prop :=
  ∀ m : Module, parse (Token.render Generated.spacing (moduleToks Generated.precTable Generated.stmtTable m)) = some m

-- Non-vacuity: a well-formed tree with needed parentheses, omitted ones (`**-`) and needed spaces, and its text.
example : WF (.binOp (.binOp (.name "a" .load) .sub (.name "b" .load)) .pow
              (.unaryOp .uSub (.ifExp (.name "c" .load) (.constant (.int 1)) (.constant (.int 2))))) = true := by
  decide +kernel
example : Token.render Generated.spacing (exprToks Generated.precTable
    (.binOp (.binOp (.name "a" .load) .sub (.name "b" .load)) .pow
            (.unaryOp .uSub (.ifExp (.name "c" .load) (.constant (.int 1)) (.constant (.int 2))))))
    = "(a-b)**-(1 if c else 2)" := by decide +kernel
example : Spec.Lex.glues .numberLiteral (Spec.Lex.nextOf (.kw "for")) = true := by decide +kernel

-- Non-vacuity of T02.4 / T02.5: nested compound statements, an `elif` chain, `while … else`, inline and block suites.
def layoutWitness : Module := ⟨[
  .expr (.name "a" .load),
  .if_ (.name "b" .load) [.expr (.name "c" .load), .pass]
    [.if_ (.name "d" .load) [.while_ (.name "e" .load) [.break_] [.continue_, .pass]] [.expr (.name "f" .load)]],
  .expr (.name "g" .load), .expr (.name "h" .load)]⟩

example : Spec.Layout.okL Generated.precTable Generated.stmtTable layoutWitness.body = true := by decide +kernel
example : Spec.Layout.plainL Generated.precTable layoutWitness.body = true := by decide +kernel
-- the bracket condition is not vacuous either: a line break inside an open bracket is rejected
example : Spec.Layout.depthL 0 [.t (.delim "("), .nl 0, .t (.delim ")")] = none := by decide +kernel
-- nor is the indentation discipline: a deeper line without a colon before it is rejected
example : Spec.Layout.indRun (0, none) [.t (.ident "a"), .nl 1, .t (.ident "b")] = none := by decide +kernel
example : (moduleToks Generated.precTable Generated.stmtTable layoutWitness).all Spec.Layout.textOK = true := by decide +kernel
example : Token.render Generated.spacing (moduleToks Generated.precTable Generated.stmtTable layoutWitness)
    = "a\nif b:c;pass\nelif d:\n\twhile e:break\n\telse:continue;pass\nelse:f\ng\nh" := by decide +kernel

end PMV.C02
