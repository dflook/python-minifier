import PMV.Generated.Sites
import PMV.Generated.Pipeline
import PMV.Model.RaiseSites
import PMV.Properties.C02
import PMV.Proofs.NameTable
/-
  C08 — Every compilable module is minified without error into a compilable module.
  The Lean models are total functions, so what can be proved here is about the *error sites*, on tables regenerated from
  the source and the running interpreter: the inventory of `raise` statements is the classified one (a new raise breaks
  the obligation), no `ast` class lacks a visitor on the printer (statement classes: `C02.dispatch_complete`), `ast.parse`
  comes first, so an unparseable source raises what the parser raises.  That the output parses is C02 (parenthesisation,
  cited below); that it passes the compiler's scope checks is C03, not cited here; that `minify()` returns and its output
  compiles is decided on the real code.  RecursionError / MemoryError cannot be exhibited by a model.
-/
namespace PMV.C08

/-- G08.1: the raise sites are exactly the classified ones. -/
theorem raise_sites_inventory :
    Generated.raiseSites = RaiseSites.modelled.map (fun s => (s.1, s.2.1, s.2.2.1)) := rfl

/-- G08.2: the node classes of the running interpreter's `ast` without a `visit_` method on ModulePrinter are exactly
    `RaiseSites.notVisited` (abstract bases, expression contexts, other module kinds, FormattedValue). -/
theorem visitor_complete :
    Generated.astClasses.filter (fun c => !Generated.visitMethods.contains c) = RaiseSites.notVisited := by
  -- membership is decided on the numeric keys of the names: the kernel compares two strings byte by byte
  simp only [← NameTable.contains_key]
  decide +kernel

/-- G08.3: parsing is the first thing `minify()` does with the source (nothing that can raise precedes it). -/
theorem parse_first :
    Generated.pipeline.take 2 = [("", "stmt:filename = filename or 'python_minifier.minify source'"), ("", "ast.parse")] := rfl

/-- the output's expressions are grammatical (from C02): no syntax error can come from missing parentheses -/
theorem output_expressions_grammatical (e : Expr) (hwf : Spec.Grammar.WF e = true) :
    Spec.Grammar.Gram (Printer.paren Generated.precTable e) = true :=
  C02.paren_grammatical e hwf

-- nine sites are of kind `fstring`, the only kind `Reach` describes as escaping `minify()` (when no candidate parses back)
example : (RaiseSites.modelled.filter fun s => s.2.2.2 == .fstring).length = 9 := by decide +kernel

end PMV.C08
